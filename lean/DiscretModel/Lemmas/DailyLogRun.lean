import DiscretModel.Lemmas.DailyLogSpec
import DiscretModel.Lemmas.DailyLogPending
/-
Schedules of writes, end-of-batch mark writes and recomputation points over (content, table, pending marks).
-/
namespace Discret.DailyLog

/-- what the batch writer holds: the stored content, the `_daily_log` table and the marks collected by the
    current batch (`DailyMutations`), which are written at the end of the batch -/
structure St where
  sigs : Content
  log : Log
  pend : List Key

inductive Step where
  | write (sigs' : Content) (marks : List Key)
  /-- end of the batch: `DailyMutations::write` -/
  | commit
  /-- `ComputeDailyLog` -/
  | compute

def pendOf (l : List Key) : Pending := fun r e d => ({ room := r, ent := e, day := d } : Key) ∈ l

def St.init : St := { sigs := fun _ _ _ => [], log := [], pend := [] }

def St.step (d : Defects) (s : St) : Step → St
  | .write sigs' marks => { s with sigs := sigs', pend := s.pend ++ marks }
  | .commit => { s with log := markAll s.pend s.log, pend := [] }
  | .compute => { s with log := recompute d s.sigs s.log }

/-- the marking discipline: every `(room, entity, day)` whose stored signatures change is marked by the
    write that changes it (or is already marked by an earlier write of the batch). A recomputation may be
    processed anywhere, also in the middle of a batch whose marks are not written yet. -/
def Step.ok (s : St) : Step → Prop
  | .write sigs' marks => ∀ r e d, sigs' r e d ≠ s.sigs r e d → pendOf (s.pend ++ marks) r e d
  | .commit => True
  | .compute => True

def run (d : Defects) : St → List Step → St
  | s, [] => s
  | s, x :: t => run d (s.step d x) t

def runOk (d : Defects) : St → List Step → Prop
  | _, [] => True
  | s, x :: t => x.ok s ∧ runOk d (s.step d x) t

theorem run_append (d : Defects) (s : St) (a b : List Step) : run d s (a ++ b) = run d (run d s a) b := by
  induction a generalizing s with
  | nil => rfl
  | cons x t ih => simp only [List.cons_append, run, ih]

theorem runOk_append (d : Defects) (s : St) (a b : List Step) :
    runOk d s (a ++ b) ↔ runOk d s a ∧ runOk d (run d s a) b := by
  induction a generalizing s with
  | nil => simp [runOk, run]
  | cons x t ih => simp only [List.cons_append, runOk, run, ih, and_assoc]

theorem runOk_defects (d d' : Defects) (steps : List Step) {s s' : St} (h1 : s.sigs = s'.sigs) (h2 : s.pend = s'.pend) :
    runOk d s steps → runOk d' s' steps := by
  induction steps generalizing s s' with
  | nil => exact id
  | cons x t ih =>
    intro ⟨a, b⟩
    cases x with
    | write sigs' marks =>
      refine ⟨?_, ih (s := s.step d (.write sigs' marks)) (s' := s'.step d' (.write sigs' marks)) rfl
        (congrArg (· ++ marks) h2) b⟩
      simp only [Step.ok] at a ⊢
      rw [← h1, ← h2]; exact a
    | commit => exact ⟨trivial, ih (s := s.step d .commit) (s' := s'.step d' .commit) h1 rfl b⟩
    | compute => exact ⟨trivial, ih (s := s.step d .compute) (s' := s'.step d' .compute) h1 h2 b⟩

section
variable {d : Defects} (hd : d.LogRepaired)

include hd in
theorem step_winv {s : St} {x : Step} (h : WInv s.sigs (pendOf s.pend) s.log) (hok : x.ok s) :
    WInv (s.step d x).sigs (pendOf (s.step d x).pend) (s.step d x).log := by
  cases x with
  | write sigs' marks =>
    simp only [St.step]
    refine WInv_write h ?_ hok
    intro r e dd hp
    exact List.mem_append_left _ hp
  | commit =>
    simp only [St.step]
    refine WInv_markAll s.pend (h.mono ?_)
    intro r e dd hp; exact Or.inr hp
  | compute =>
    simp only [St.step]
    exact recompute_pending hd h

include hd in
theorem run_winv (steps : List Step) {s : St} (h : WInv s.sigs (pendOf s.pend) s.log) (hok : runOk d s steps) :
    WInv (run d s steps).sigs (pendOf (run d s steps).pend) (run d s steps).log := by
  induction steps generalizing s with
  | nil => exact h
  | cons x t ih => exact ih (step_winv hd h hok.1) hok.2

end

/-- concrete contents, for the witnesses and the examples of `Props/C09.lean` -/
def contentOf (items : List (Key × Sig)) : Content :=
  fun r e d => (items.filter fun x => x.1 = { room := r, ent := e, day := d }).map (·.2)

theorem contentOf_absent (items : List (Key × Sig)) (k : Key) (h : k ∉ items.map (·.1)) :
    contentOf items k.room k.ent k.day = [] := by
  unfold contentOf
  rw [List.map_eq_nil_iff, List.filter_eq_nil_iff]
  intro x hx
  have hne : x.1 ≠ k := fun e => h (e ▸ List.mem_map_of_mem hx)
  simpa using hne

/-- the marking discipline for a write that replaces the content `a` by the content `b`: it is enough to look at
    the keys that occur in `a` or `b` (a decidable, finite condition) -/
theorem contentOf_marks_ok (a b : List (Key × Sig)) (marks : List Key)
    (h : ∀ k ∈ (a ++ b).map (·.1), contentOf b k.room k.ent k.day ≠ contentOf a k.room k.ent k.day → k ∈ marks) :
    ∀ r e d, contentOf b r e d ≠ contentOf a r e d → pendOf marks r e d := by
  intro r e d hne
  by_cases hk : ({ room := r, ent := e, day := d } : Key) ∈ (a ++ b).map (·.1)
  · exact h _ hk hne
  · exfalso
    apply hne
    have ha : ({ room := r, ent := e, day := d } : Key) ∉ a.map (·.1) := fun x => hk (by
      rw [List.map_append]; exact List.mem_append_left _ x)
    have hb : ({ room := r, ent := e, day := d } : Key) ∉ b.map (·.1) := fun x => hk (by
      rw [List.map_append]; exact List.mem_append_right _ x)
    rw [contentOf_absent a _ ha, contentOf_absent b _ hb]

theorem init_winv : WInv St.init.sigs (pendOf St.init.pend) St.init.log :=
  WInv_empty.mono fun _ _ _ h => nomatch h

end Discret.DailyLog
