import DiscretModel.Gen.DeletionKernel
import DiscretModel.Lemmas.RoomKernelEq
import DiscretModel.Model.LocalWrite
/-
T12 obligations (C01, C12): the decision of `RoomAuthorisations::validate_deletion`, regenerated from the Rust source
on every run (Gen/DeletionKernel.lean), equals the decision of the hand-written local deletion model
(Model/LocalWrite.lean: `deleteNode`, `deleteRef`, `deleteRoomAdminRef`) for the code as it is, under the abstraction
map below: the query `DeletionQuery::build` makes for one `delete { E { $id } }` / `delete { E { $id label[$dest] } }`
(one clock value for `build` and for the validation, as in the correspondence run).
-/
namespace Discret.Gen.DeletionKernel
open Discret.Room Discret.Rust Discret.LocalWrite Discret.Gen.RoomKernel

def raOf (rooms : List Room) (caller : Key) : RoomAuthorisations := { key := caller, rooms }

def errOf : Error → MErr
  | .DeleteNotAllowed => .deleteNotAllowed
  | .AuthorisationRejected => .rejected
  | .UnknownRoom => .unknownRoom

/-- the regenerated decision in the model's error type -/
def decision (r : Except Error Unit) : Except MErr Unit :=
  match r with
  | .ok _ => .ok ()
  | .error e => .error (errOf e)

/-- the model's answer with the resulting database forgotten: accepted, or refused with which error -/
def verdict {α : Type} (r : Except MErr α) : Except MErr Unit :=
  match r with
  | .ok _ => .ok ()
  | .error e => .error e

def nodeOf (row : Row) : Node := { id := row.id, room_id := row.room, key := row.author }

/-- `DeletionQuery::build` for `delete { E { $id } }` on the stored row `row` -/
def nodeQuery (row : Row) (entity : Ent) (now : Int) : DeletionQuery :=
  { nodes := [{ node := nodeOf row, name := entity, date := now }], updated_nodes := [], edges := [] }

/-- `DeletionQuery::build` for `delete { E { $id label[$dest] } }` when the reference `edge` exists at row `row`:
    the reference, the room of its source row, and the source row to re-date and re-sign -/
def refQuery (row : Row) (entity : Ent) (short : ShortName) (edge : EdgeRow) (now : Int) : DeletionQuery :=
  { nodes := [], updated_nodes := [nodeOf row],
    edges := [{ edge := { src := edge.src, src_entity := short, key := edge.author }, src_name := entity,
                room_id := row.room, date := now }] }

/-- the query when the named reference does not exist: nothing to delete, nothing to re-sign (456214b) -/
def emptyQuery : DeletionQuery := { nodes := [], updated_nodes := [], edges := [] }

def DataName (e : Ent) : Prop := e ≠ ROOM_ENT ∧ e ≠ AUTHORISATION_ENT ∧ e ≠ ENTITY_RIGHT_ENT ∧ e ≠ USER_AUTH_ENT
def DataShort (s : ShortName) : Prop :=
  s ≠ ROOM_ENT_SHORT ∧ s ≠ AUTHORISATION_ENT_SHORT ∧ s ≠ ENTITY_RIGHT_ENT_SHORT ∧ s ≠ USER_AUTH_ENT_SHORT

theorem hmGet_getRoom (rooms : List Room) (r : Id) : Rust.hmGet (fun (x : Room) => x.id) rooms r = getRoom rooms r := rfl

/-- **node deletion.** The regenerated decision on the query of `delete { E { $id } }` is the model's `deleteNode`
    for the code as it is (incoming references are not looked at). -/
theorem validate_deletion_node_eq {df : Defects} (hdf : df.incomingRefsUnchecked = true) (rooms : List Room) (db : Db)
    (caller : Key) (now : Int) (handle : Nat) (entity : Ent) (row : Row) (hrow : db.getRow handle entity = some row)
    (hent : DataName entity) :
    decision (validate_deletion (raOf rooms caller) (nodeQuery row entity now) now) =
      verdict (deleteNode df rooms db caller now handle entity) := by
  obtain ⟨h1, h2, h3, h4⟩ := hent
  unfold deleteNode
  rw [hrow]
  simp only [hdf, Bool.not_true, Bool.false_and, Bool.false_eq_true, if_false]
  unfold validate_deletion nodeQuery raOf nodeOf
  simp only [forTry, h1, h2, h3, h4, decide_false, Bool.or_self, Bool.false_eq_true, if_false, hmGet_getRoom,
    Room_can_eq]
  cases row.room with
  | none => rfl
  | some rid =>
    dsimp only
    cases getRoom rooms rid with
    | none => rfl
    | some room =>
      dsimp only
      by_cases ha : row.author = caller
      · simp only [ha, decide_true, if_true]; cases room.can caller entity now .mutateSelf <;> rfl
      · simp only [ha, decide_false, Bool.false_eq_true, if_false]; cases room.can caller entity now .mutateAll <;> rfl

/-- **node deletion, entities of a room definition.** A `sys.Room`, `sys.Authorisation`, `sys.EntityRight` or
    `sys.UserAuth` row is never deleted through the API, whatever the rooms say. -/
theorem validate_deletion_node_sys (ra : RoomAuthorisations) (n : NodeDelete) (rest : List NodeDelete)
    (upd : List Node) (edges : List EdgeDelete) (now : Int)
    (h : n.name = ROOM_ENT ∨ n.name = AUTHORISATION_ENT ∨ n.name = ENTITY_RIGHT_ENT ∨ n.name = USER_AUTH_ENT) :
    validate_deletion ra { nodes := n :: rest, updated_nodes := upd, edges } now = .error .DeleteNotAllowed := by
  unfold validate_deletion
  rcases h with h | h | h | h <;> simp [forTry, h]

/-- **reference deletion.** The regenerated decision on the query of `delete { E { $id label[$dest] } }` for an
    existing reference is the model's `deleteRef` for the code as it is (301f3d3): the own-rows right when the
    reference AND the source row that is re-signed are the caller's, the all-rows right otherwise. -/
theorem validate_deletion_ref_eq {df : Defects} (hdf : df.refRightOnEdgeAuthor = false) (rooms : List Room) (db : Db)
    (caller : Key) (now : Int) (handle : Nat) (entity : Ent) (label dest : Nat) (row : Row) (edge : EdgeRow)
    (short : ShortName) (hrow : db.getRow handle entity = some row)
    (hedge : db.edges.find? (fun e => e.src = handle && e.label = label && e.dest = dest) = some edge)
    (hshort : DataShort short) :
    decision (validate_deletion (raOf rooms caller) (refQuery row entity short edge now) now) =
      verdict (deleteRef df rooms db caller now handle entity label dest) := by
  obtain ⟨h1, h2, h3, h4⟩ := hshort
  obtain ⟨hid, -⟩ : row.id = handle ∧ row.entity = entity := by simpa using List.find?_some hrow
  obtain ⟨⟨hsrc, -⟩, -⟩ : (edge.src = handle ∧ edge.label = label) ∧ edge.dest = dest := by
    simpa using List.find?_some hedge
  -- `foreign_sources` holds the source row iff it is not the caller's
  have hown : (decide (edge.author = caller) &&
      !(List.map (fun node : Node => node.id) (List.filter (fun node => !decide (node.key = caller))
        [{ id := row.id, room_id := row.room, key := row.author }])).contains edge.src) =
      (decide (edge.author = caller) && decide (row.author = caller)) := by
    by_cases ha : row.author = caller <;> simp [ha, hsrc, hid]
  unfold deleteRef
  rw [hrow]
  simp only [hedge, hdf, Bool.false_eq_true, if_false]
  unfold validate_deletion refQuery raOf nodeOf
  simp only [forTry, h1, h2, h3, h4, decide_false, Bool.or_self, Bool.false_eq_true, if_false, hmGet_getRoom,
    Room_can_eq, hown]
  cases row.room with
  | none => rfl
  | some rid =>
    dsimp only
    cases getRoom rooms rid with
    | none => rfl
    | some room =>
      dsimp only
      cases (decide (edge.author = caller) && decide (row.author = caller)) with
      | false => simp only [Bool.false_eq_true, if_false]; cases room.can caller entity now .mutateAll <;> rfl
      | true => simp only [if_true]; cases room.can caller entity now .mutateSelf <;> rfl

/-- **reference deletion, reference absent.** Nothing is deleted, nothing is re-signed: accepted, as `deleteRef`
    (456214b). -/
theorem validate_deletion_no_ref_eq {df : Defects} (hdf : df.refDeletionResign = false) (rooms : List Room) (db : Db)
    (caller : Key) (now : Int) (handle : Nat) (entity : Ent) (label dest : Nat) (row : Row)
    (hrow : db.getRow handle entity = some row)
    (hedge : db.edges.find? (fun e => e.src = handle && e.label = label && e.dest = dest) = none) :
    decision (validate_deletion (raOf rooms caller) emptyQuery now) =
      verdict (deleteRef df rooms db caller now handle entity label dest) := by
  unfold deleteRef
  rw [hrow]
  simp only [hedge, hdf, Bool.false_eq_true, if_false]
  unfold validate_deletion emptyQuery
  simp [forTry, decision, verdict]

/-- **the guard on references of the entities of a room definition (f1df104).** A reference whose source row is a
    `sys.Room`, `sys.Authorisation`, `sys.EntityRight` or `sys.UserAuth` row (SHORT entity name of the reference) is
    never deleted through the API — the model's `deleteRoomAdminRef` for the code as it is. -/
theorem validate_deletion_sys_ref_eq (ra : RoomAuthorisations) (upd : List Node) (e : EdgeDelete)
    (rest : List EdgeDelete) (now : Int) (roomAuthor : Key) (adminIds : List Nat) (caller : Key) (entry : Nat)
    (h : e.edge.src_entity = ROOM_ENT_SHORT ∨ e.edge.src_entity = AUTHORISATION_ENT_SHORT ∨
      e.edge.src_entity = ENTITY_RIGHT_ENT_SHORT ∨ e.edge.src_entity = USER_AUTH_ENT_SHORT) :
    decision (validate_deletion ra { nodes := [], updated_nodes := upd, edges := e :: rest } now) =
      verdict (deleteRoomAdminRef Defects.asImplemented roomAuthor adminIds caller entry) := by
  unfold validate_deletion
  rcases h with h | h | h | h <;> simp [forTry, h, decision, verdict, errOf, deleteRoomAdminRef, Defects.asImplemented]

/-- the code as it is meets the hypotheses on the switches -/
example : Defects.asImplemented.incomingRefsUnchecked = true ∧ Defects.asImplemented.refRightOnEdgeAuthor = false ∧
    Defects.asImplemented.refDeletionResign = false := ⟨rfl, rfl, rfl⟩

end Discret.Gen.DeletionKernel
