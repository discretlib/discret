import DiscretModel.Lemmas.LocalWrite
import DiscretModel.Model.Ingest
/-
The bridge between the local write model (`Model/LocalWrite.lean`) and the peer ingestion model
(`Model/Ingest.lean`), used by C12: how a locally written row looks to a peer, and the agreement of the two
right checks on it. Both sides are brought to the same boolean over `canB`: the local check is `changeOk`
(`localOk_eq`), the peer's `validate_node` is its row rule `rowOk` (`peerOk_eq_rowOk`), and a deletion record asks
`canB` for the own-rows or the all-rows right (`edge_record_verdict`); with normalised rights `changeOk` is the row
rule together with those record rights (`changeOk_eq_records`).
-/
namespace Discret.LocalWrite
open Discret.Room

def toNodeRow (r : Row) : Ingest.NodeRow :=
  { id := r.id, room := r.room, ent := r.entity, cdate := r.cdate, mdate := r.mdate, key := r.author, sg := 0,
    val := r.val.toNat }

/-- a row as it arrives at a peer: validly signed, conforming to the data model, below the size limit -/
def toInNode (r : Row) : Ingest.InNode :=
  { row := { toNodeRow r with sg := 1 }, annDate := r.mdate, annSg := 1, sigOk := true, conforms := true,
    jsonAbsent := false, big := false }

def peerWith (rooms : List Room) (nodes : List Ingest.NodeRow) : Ingest.Inst :=
  { rooms, nodes, edges := [], nodeLog := [], edgeLog := [] }

theorem canIn_eq_canB {p : Ingest.Inst} {rooms : List Room} (hp : p.rooms = rooms) (r : Nat) (k : Key) (e : Ent)
    (d : Int) (rt : RightType) : Ingest.canIn p r k e d rt = canB rooms r k e d rt := by
  subst hp; rfl

theorem canIn_peer (rooms : List Room) (nodes : List Ingest.NodeRow) (r : Nat) (k : Key) (e : Ent) (d : Int)
    (rt : RightType) :
    Ingest.canIn (peerWith rooms nodes) r k e d rt =
      (match getRoom rooms r with | some rm => rm.can k e d rt | none => false) := rfl

theorem needRight_eq (c : Change) (caller : Key) :
    Ingest.needRight (c.old.map fun o => (toNodeRow o).key) caller = needed c caller := by
  unfold Ingest.needRight needed
  cases c.old <;> rfl

def localOk (df : Defects) (rooms : List Room) (caller : Key) (now : Int) (c : Change) : Bool :=
  (validateChange df rooms caller now c).toBool

def peerOk (d : Ingest.Defects) (rooms : List Room) (caller : Key) (c : Change) (n : Row) : Bool :=
  Ingest.validateNode d (peerWith rooms []) (toInNode (signRow caller n)) (c.old.map toNodeRow)

section
variable {df : Defects} {rooms : List Room} {caller : Key} {now : Int} {c : Change} {rid : Id}

theorem localOk_eq (hroom : c.roomId = some rid) :
    localOk df rooms caller now c = changeOk df rooms caller now c rid :=
  toBool_of_ok_iff fun _ => validateChange_ok_iff hroom

/-- **the peer's `validate_node` is the row rule of the local check.** For a change that writes row `n` into room `rid`
    at date `now`, whose previous version (if any) is of the same entity and was in a room: same author (the caller
    signs), same rooms, same date, same needed right. The switches of neither side matter, as long as the local side
    looks up the room the row leaves under its own id (#2 off, or the row does not move). -/
theorem peerOk_eq_rowOk (df : Defects) (d : Ingest.Defects) {n : Row} (hmove : df.oldRoomLookup = false ∨ NoMove c)
    (hroom : c.roomId = some rid) (hn : n.room = some rid) (he : n.entity = c.entity) (hd : n.mdate = now)
    (hold : ∀ o, c.old = some o → o.entity = c.entity ∧ o.room ≠ none) :
    peerOk d rooms caller c n = rowOk df rooms caller now c rid := by
  have hneed : Ingest.needRight ((c.old.map toNodeRow).map (·.key)) caller = needed c caller := by
    rw [Option.map_map]; exact needRight_eq c caller
  unfold peerOk Ingest.validateNode rowOk leavesOk
  simp only [hneed, toInNode, signRow, toNodeRow, hn, he, hd, canIn_eq_canB (p := peerWith rooms []) (rooms := rooms) rfl,
    Bool.not_false, Bool.true_and]
  cases hco : c.old with
  | none => rfl
  | some o =>
    obtain ⟨hoe, hor⟩ := hold o hco
    cases hro : o.room with
    | none => exact absurd hro hor
    | some oldRid =>
      have hlook : (oldRid = rid ∨ df.oldRoomLookup = false) := hmove.symm.imp_left fun hnm => hnm o oldRid rid hco hro hroom
      rcases hlook with rfl | hdf
      · simp [hro, hoe, toNodeRow]
      · simp [hro, hoe, hdf, toNodeRow]

/-- `hown`: the removal of somebody else's reference needs more than the row rule, see `C12_change_verdict` -/
theorem row_verdict (df : Defects) (d : Ingest.Defects) {n : Row} (hmove : df.oldRoomLookup = false ∨ NoMove c)
    (hown : c.edgeDels.any (fun e => e.author != caller) = false)
    (hroom : c.roomId = some rid) (hn : n.room = some rid) (he : n.entity = c.entity) (hd : n.mdate = now)
    (hold : ∀ o, c.old = some o → o.entity = c.entity ∧ o.room ≠ none) :
    localOk df rooms caller now c = peerOk d rooms caller c n := by
  rw [localOk_eq hroom, peerOk_eq_rowOk df d hmove hroom hn he hd hold, changeOk, hown, Bool.and_false,
    Bool.false_and, Bool.not_false, Bool.and_true]

end

/-- `EntityRight::new` (room.rs:300-313): a right that grants all rows grants own rows. Every room built by room
    mutations, reloaded or imported holds such rights only (`Right.new`, `RightRow.toRight false`). -/
def Normalised (room : Room) : Prop := ∀ a ∈ room.auths, ∀ x ∈ a.rights, x.mutAll = true → x.mutSelf = true

theorem can_all_self {room : Room} (hn : Normalised room) {k : Key} {e : Ent} {d : Int}
    (h : room.can k e d .mutateAll = true) : room.can k e d .mutateSelf = true := by
  obtain ⟨a, ha, hm, hc⟩ := (Room.can_iff room k e d .mutateAll).mp h
  refine (Room.can_iff room k e d .mutateSelf).mpr ⟨a, ha, hm, ?_⟩
  obtain ⟨x, hg, hx⟩ := (Auth.can_iff a e d .mutateAll).mp hc
  refine (Auth.can_iff a e d .mutateSelf).mpr ⟨x, ?_, hx⟩
  have hmem : x ∈ a.rights := by
    rcases hx with h1 | ⟨_, h1⟩ <;>
      exact (glast_some_mem Right.entity Right.validFrom ((rightAt_eq_glast _ _ _) ▸ h1)).1
  exact hn a ha x hmem hg

theorem canB_all_self {rooms : List Room} {rid : Id} (hn : ∀ room, getRoom rooms rid = some room → Normalised room)
    {k : Key} {e : Ent} {d : Int} (h : canB rooms rid k e d .mutateAll = true) :
    canB rooms rid k e d .mutateSelf = true := by
  cases hr : getRoom rooms rid with
  | none => rw [canB_none hr] at h; cases h
  | some room => rw [canB_some hr] at h ⊢; exact can_all_self (hn room hr) h

theorem canB_needed_self {rooms : List Room} {rid : Id} (hn : ∀ room, getRoom rooms rid = some room → Normalised room)
    {caller : Key} {now : Int} {c : Change} (h : canB rooms rid caller c.entity now (needed c caller) = true) :
    canB rooms rid caller c.entity now .mutateSelf = true := by
  cases hnd : needed c caller with
  | mutateSelf => rw [hnd] at h; exact h
  | mutateAll => rw [hnd] at h; exact canB_all_self hn h

/-- **the removal clause of the local check is the peers' rule for the deletion records.** With normalised rights, a
    change passes the local check iff it passes the row rule and, for every reference it removes, the caller holds the
    right a peer asks for the record: own-rows for a reference of the caller, all-rows for somebody else's. -/
theorem changeOk_eq_records {df : Defects} {rooms : List Room} {caller : Key} {now : Int} {c : Change} {rid : Id}
    (hdf : df.refRemovalRightOnRowAuthor = false)
    (hnorm : ∀ room, getRoom rooms rid = some room → Normalised room) :
    changeOk df rooms caller now c rid =
      (rowOk df rooms caller now c rid && c.edgeDels.all fun e =>
        canB rooms rid caller c.entity now (if e.author = caller then .mutateSelf else .mutateAll)) := by
  unfold changeOk
  cases hrow : rowOk df rooms caller now c rid with
  | false => rfl
  | true =>
    -- the row rule passed, so the own-rows right is there: only somebody else's references ask for more
    have hself := canB_needed_self hnorm (rowOk_enters hrow)
    have hrec : ∀ e : EdgeRow,
        canB rooms rid caller c.entity now (if e.author = caller then .mutateSelf else .mutateAll) =
          (!(e.author != caller) || canB rooms rid caller c.entity now .mutateAll) := fun e => by
      by_cases h : e.author = caller <;> simp [h, hself]
    rw [hdf, List.all_congr rfl hrec]
    cases canB rooms rid caller c.entity now .mutateAll with
    | true => simp
    | false => simp [List.any_eq_not_all_not]

/-- a deletion record as it arrives at a peer; `se`: the (short) entity of the source row -/
def toEdgeDel (se : Ent) (t : EdgeTomb) : Ingest.EdgeDel :=
  { room := t.room, src := t.src, srcEnt := se, dst := t.dest, label := t.label, cdate := t.cdate, ddate := t.ddate,
    key := t.author }

def toNodeDel (t : NodeTomb) : Ingest.NodeDel :=
  { room := t.room, id := t.id, ent := t.entity, mdate := t.mdate, ddate := t.ddate, key := t.author }

def toInEdge (se : Ent) (e : EdgeRow) : Ingest.InEdge :=
  { row := { src := e.src, srcEnt := se, label := e.label, dst := e.dest, cdate := e.cdate, key := e.author },
    sigOk := true }

/-- `e` passes the entity tests of the peer's validators: known to the data model and, where the guard on the
    entities of a room definition is in place, not one of them -/
def DataEnt (d : Ingest.Defects) (e : Ent) : Prop :=
  Ingest.knownEnt e = true ∧ (d.authEntityUnchecked || !Ingest.authEnt e) = true

theorem validateChange_tombs {df : Defects} {rooms : List Room} {caller : Key} {now : Int} {c : Change}
    {t : List EdgeTomb} {rid : Id} (hroom : c.roomId = some rid) (h : validateChange df rooms caller now c = .ok t) :
    t = c.edgeDels.map (tombOf rid caller now) :=
  ((validateChange_ok_iff hroom).mp h).2

theorem edge_record_verdict {d : Ingest.Defects} {p : Ingest.Inst} {rooms : List Room} (hp : p.rooms = rooms)
    {se : Ent} (hent : DataEnt d se) {rid : Id} {caller : Key} {now : Int} {e : EdgeRow}
    (hsrc : d.edgeDelSourceUnchecked = true ∨ Ingest.edgeDelSourceOk p (toEdgeDel se (tombOf rid caller now e)) = true)
    (hheld : (p.edges.find? (Ingest.edgeMatches (toEdgeDel se (tombOf rid caller now e)))).map (·.key) = some e.author) :
    Ingest.edgeDelAccepted d p (toEdgeDel se (tombOf rid caller now e)) =
      canB rooms rid caller se now (if e.author = caller then .mutateSelf else .mutateAll) := by
  unfold Ingest.edgeDelAccepted
  rw [hheld, canIn_eq_canB hp, Bool.or_eq_true_iff.mpr hsrc]
  have h1 : Ingest.knownEnt (toEdgeDel se (tombOf rid caller now e)).srcEnt = true := hent.1
  have h2 : (d.authEntityUnchecked || !Ingest.authEnt (toEdgeDel se (tombOf rid caller now e)).srcEnt) = true := hent.2
  rw [h1, h2]
  rfl

/-- the record of a node deletion (`NodeDeletionEntry::build`) -/
def nodeTombOf (rid : Id) (caller : Key) (now : Int) (row : Row) : NodeTomb :=
  { room := rid, id := row.id, entity := row.entity, mdate := row.mdate, ddate := now, author := caller }

/-- the row a reference deletion re-dates and re-signs -/
def resigned (caller : Key) (now : Int) (row : Row) : Row := { row with mdate := now, author := caller }

theorem resigned_row_verdict {rooms : List Room} {caller : Key} {now : Int} {row : Row} {rid : Id}
    (hr : row.room = some rid) :
    Ingest.validateNode Ingest.Defects.none (peerWith rooms []) (toInNode (resigned caller now row))
        (some (toNodeRow row)) =
      canB rooms rid caller row.entity now (if row.author = caller then .mutateSelf else .mutateAll) := by
  unfold Ingest.validateNode
  simp [toInNode, toNodeRow, resigned, hr, canIn_eq_canB (p := peerWith rooms []) (rooms := rooms) rfl, Ingest.needRight,
    Ingest.Defects.none]

/-- a peer that holds the room definitions `rooms` and the rows and references of `db` (`se`: the source entity of a
    reference label) -/
def peerHolding (rooms : List Room) (db : Db) (se : Nat → Ent) : Ingest.Inst :=
  { rooms, nodes := db.rows.map toNodeRow, edges := db.edges.map fun e => (toInEdge (se e.label) e).row,
    nodeLog := [], edgeLog := [] }

end Discret.LocalWrite
