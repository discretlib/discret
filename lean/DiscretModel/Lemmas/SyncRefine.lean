import DiscretModel.Lemmas.SyncTombsFixedRoom
import DiscretModel.Lemmas.SyncMarks
import DiscretModel.Lemmas.SyncOrder
/-
Refinement: what one day of a pull does to the rows and deletion records of the puller is the join with what the
source stores for that `(room, entity, day)`, in every model that consults the deletion log when it ingests rows.
-/
namespace Discret.Sync
open Discret.DailyLog Discret.SyncOrder

/-- what the join sees of a replica: per row id the `(mdate, signature)` of the stored row, whether the id carries a node
    deletion record, and the signatures of the node deletion records. Room, entity, value and author of a row, the
    references, their deletion records and the log are not seen: that the signature stands for the rest of the row is
    `SigsDetermine`. -/
def abs (r : Replica) : ARep :=
  { ver := fun id => (r.findId id).map fun n => (n.mdate, n.sig),
    dead := fun id => r.ntombs.any fun t => t.id = id,
    recs := fun s => r.ntombs.any fun t => t.sig = s }

theorem abs_wf {r : Replica} (h : NoZombie r) : (abs r).WF := by
  intro id hd
  simp only [abs] at hd ⊢
  cases hf : r.findId id with
  | none => rfl
  | some n =>
    exfalso
    obtain ⟨hm, hid⟩ := findId_some hf
    obtain ⟨t, ht, e⟩ := List.any_eq_true.mp hd
    have e' : t.id = id := by simpa using e
    exact h t ht n hm (hid.trans e'.symm)

theorem abs_ver_some {r : Replica} {i : Nat} {v : Ver} (h : (abs r).ver i = some v) :
    ∃ n ∈ r.nodes, n.id = i ∧ v = (n.mdate, n.sig) := by
  obtain ⟨n, hf, e⟩ := Option.map_eq_some_iff.mp h
  exact ⟨n, (findId_some hf).1, (findId_some hf).2, e.symm⟩

theorem abs_ver_of_mem {r : Replica} (hn : IdsNodup r) {n : Node} (h : n ∈ r.nodes) :
    (abs r).ver n.id = some (n.mdate, n.sig) :=
  congrArg (Option.map fun n : Node => (n.mdate, n.sig)) (find_of_mem_nodup Node.id hn h)

theorem abs_ver_mono {r r' : Replica} (hn : IdsNodup r') (hnodes : ∀ n ∈ r.nodes, n ∈ r'.nodes) {i : Nat} {v : Ver}
    (h : (abs r).ver i = some v) : (abs r').ver i = some v := by
  obtain ⟨n, hm, rfl, rfl⟩ := abs_ver_some h
  exact abs_ver_of_mem hn (hnodes n hm)

theorem abs_le {r r' : Replica} (hz : NoZombie r') (hn : IdsNodup r') (hnodes : ∀ n ∈ r.nodes, n ∈ r'.nodes)
    (htombs : ∀ t ∈ r.ntombs, t ∈ r'.ntombs) : le (abs r) (abs r') := by
  have hor : ∀ p : NTomb → Bool, (r.ntombs.any p || r'.ntombs.any p) = r'.ntombs.any p := by
    intro p
    cases h : r.ntombs.any p with
    | false => rfl
    | true =>
      obtain ⟨t, ht, e⟩ := List.any_eq_true.mp h
      exact (List.any_eq_true.mpr ⟨t, htombs t ht, e⟩).symm
  apply ARep.ext'
  · intro i
    show (if ((abs r).dead i || (abs r').dead i) = true then none else merge ((abs r).ver i) ((abs r').ver i)) = _
    rw [show ((abs r).dead i || (abs r').dead i) = (abs r').dead i from hor _]
    cases hd : (abs r').dead i with
    | true => exact (abs_wf hz i hd).symm
    | false =>
      show merge ((abs r).ver i) ((abs r').ver i) = _
      cases hv : (abs r).ver i with
      | none => exact merge_none_left _
      | some v => rw [abs_ver_mono hn hnodes hv]; exact merge_idem _
  · exact fun i => hor _
  · exact fun s => hor _

/-- the records of a replica below another: the greater one holds a record of the same signature and one of the
    same row -/
theorem le_abs_tombs {r r' : Replica} (h : le (abs r) (abs r')) {t : NTomb} (ht : t ∈ r.ntombs) :
    (∃ u ∈ r'.ntombs, u.sig = t.sig) ∧ ∃ u ∈ r'.ntombs, u.id = t.id := by
  have h' : join (abs r) (abs r') = abs r' := h
  have here : ∀ p : NTomb → Bool, p t = true → (r.ntombs.any p || r'.ntombs.any p) = true := fun p hp =>
    Bool.or_eq_true_iff.mpr (.inl (List.any_eq_true.mpr ⟨t, ht, hp⟩))
  have hrec : (abs r').recs t.sig = true := by rw [← h']; exact here _ (decide_eq_true rfl)
  have hdead : (abs r').dead t.id = true := by rw [← h']; exact here _ (decide_eq_true rfl)
  obtain ⟨u, hu, eu⟩ := List.any_eq_true.mp hrec
  obtain ⟨v, hv, ev⟩ := List.any_eq_true.mp hdead
  exact ⟨⟨u, hu, of_decide_eq_true eu⟩, v, hv, of_decide_eq_true ev⟩

theorem abs_congr {r r' : Replica} (h1 : r'.nodes = r.nodes) (h2 : r'.ntombs = r.ntombs) : abs r' = abs r := by
  simp only [abs, Replica.findId, h1, h2]

/-- the replica that stores the rows `ns` and the node deletion records `ts` and nothing else -/
def holding (ns : List Node) (ts : List NTomb) : Replica :=
  { nodes := ns, edges := [], ntombs := ts, etombs := [], log := [] }

theorem join_holding_tombs (ts ts' : List NTomb) :
    join (abs (holding [] ts)) (abs (holding [] ts')) = abs (holding [] (ts ++ ts')) := by
  apply ARep.ext'
  · intro i
    show (if _ then none else merge none none) = none
    split <;> rfl
  · exact fun i => List.any_append.symm
  · exact fun s => List.any_append.symm

theorem abs_holding_congr {ts ts' : List NTomb} (h : ∀ x, x ∈ ts ↔ x ∈ ts') :
    abs (holding [] ts) = abs (holding [] ts') := by
  have hany : ∀ p : NTomb → Bool, ts.any p = ts'.any p := fun p => by
    rw [Bool.eq_iff_iff]
    simp only [List.any_eq_true, h]
  apply ARep.ext'
  · exact fun i => rfl
  · exact fun i => hany _
  · exact fun s => hany _

theorem join_tombs_rows {ns : List Node} {ts : List NTomb} (hz : NoZombie (holding ns ts)) :
    join (abs (holding [] ts)) (abs (holding ns [])) = abs (holding ns ts) := by
  apply ARep.ext'
  · intro i
    show (if ((abs (holding ns ts)).dead i || false) = true then none else merge none ((abs (holding ns ts)).ver i)) = _
    rw [Bool.or_false, merge_none_left]
    exact (abs_wf hz).ver_ite i
  · exact fun i => Bool.or_false _
  · exact fun s => Bool.or_false _

theorem find_replace (n : Node) (l : List Node) (id : Nat) :
    (replaceNode n l).find? (fun x => x.id = id) =
      (l.find? fun x => x.id = id).map fun x => if x.id = n.id then n else x :=
  find_key_replace Node.id l n id

theorem find_putNode (n : Node) (l : List Node) (id : Nat) :
    (putNode n l).find? (fun x => x.id = id) = if id = n.id then some n else l.find? (fun x => x.id = id) :=
  find_key_upsert Node.id l n id

theorem any_putNTomb (t : NTomb) (l : List NTomb) (hpk : ∀ u ∈ l, t.samePk u = true → u = t) (p : NTomb → Bool) :
    (putNTomb t l).any p = (p t || l.any p) := by
  unfold putNTomb
  split
  · rename_i hany
    -- the record replaced is `t` itself
    have hmap : (l.map fun x => if t.samePk x = true then t else x) = l := by
      refine (List.map_congr_left fun x hx => ?_).trans (List.map_id l)
      split
      · rename_i hp; exact (hpk x hx hp).symm
      · rfl
    obtain ⟨u, hu, hpu⟩ := List.any_eq_true.mp hany
    have htl : t ∈ l := hpk u hu hpu ▸ hu
    rw [hmap]
    cases hp : p t with
    | false => rfl
    | true => exact List.any_eq_true.mpr ⟨t, htl, hp⟩
  · rw [List.any_append, List.any_cons, List.any_nil, Bool.or_false, Bool.or_comm]

/-- two deletion records with the same primary key `(room, deletion date, row, entity)` are the same record -/
def PkFun (S : NTomb → Prop) : Prop := ∀ t u, S t → S u → t.samePk u = true → u = t

theorem PkFun.mono {S S' : NTomb → Prop} (h : PkFun S) (hsub : ∀ x, S' x → S x) : PkFun S' :=
  fun t u ht hu => h t u (hsub t ht) (hsub u hu)

theorem foldTombs_mem {d : Defects} (ts : List NTomb) :
    ∀ (r : Replica) (x : NTomb), x ∈ (ts.foldl (applyNTomb d) r).ntombs → x ∈ r.ntombs ∨ x ∈ ts := fun _ _ h =>
  (foldl_new Replica.ntombs (P := fun t x => x = t) h fun r t _ h' =>
    (mem_putNTomb (show _ ∈ putNTomb t r.ntombs from h')).symm).imp_right fun ⟨_, ht, e⟩ => e ▸ ht

section tombs
variable {d : Defects}

/-- the room scoping of a synchronised deletion is immaterial for the records `ts` on the rows `ns`: the switch is
    off, or a row and a record of one row id name one room -/
def ScopeOk (d : Defects) (ns : List Node) (ts : List NTomb) : Prop :=
  ∀ n ∈ ns, ∀ t ∈ ts, n.id = t.id → d.syncDeletionRoomScoped = false ∨ n.room = t.room

theorem ScopeOk.mono {ns ns' : List Node} {ts ts' : List NTomb} (h : ScopeOk d ns ts)
    (hn : ∀ n ∈ ns', n ∈ ns) (ht : ∀ t ∈ ts', t ∈ ts) : ScopeOk d ns' ts' :=
  fun n hn' t ht' => h n (hn n hn') t (ht t ht')

theorem ScopeOk.of_roomFn {f : Nat → Nat} {dst src : Replica}
    (h : d.syncDeletionRoomScoped = false ∨ (RoomFn f dst ∧ RoomFn f src)) :
    ScopeOk d (dst.nodes ++ src.nodes) (dst.ntombs ++ src.ntombs) := by
  intro n hn t ht e
  refine h.imp id fun h => ?_
  have hn' : n.room = f n.id := (List.mem_append.mp hn).elim (h.1.1 n) (h.2.1 n)
  have ht' : t.room = f t.id := (List.mem_append.mp ht).elim (h.1.2 t) (h.2.2 t)
  rw [hn', ht', e]

theorem findId_applyNTomb (r : Replica) (t : NTomb) (hR : ScopeOk d r.nodes [t]) (i : Nat) :
    (applyNTomb d r t).findId i = if i = t.id then none else r.findId i := by
  show (r.nodes.filter fun n => !(decide (n.id = t.id) && (!d.syncDeletionRoomScoped || decide (n.room = t.room)))).find?
    (fun n => n.id = i) = _
  rw [List.find?_filter]
  split
  · -- every row of that id is removed: with the switch on, the room test passes, row and record naming one room
    rename_i e
    rw [List.find?_eq_none]
    intro n hn
    by_cases e' : n.id = t.id
    · rcases hR n hn t List.mem_cons_self e' with h | h <;> simp [e, e', h]
    · simp [e, e']
  · rename_i e
    congr 1
    funext n
    by_cases hn : n.id = i
    · simp [hn, e]
    · simp [hn]

theorem abs_applyNTomb {r : Replica} (hw : (abs r).WF) (t : NTomb) (hR : ScopeOk d r.nodes [t])
    (hpk : ∀ u ∈ r.ntombs, t.samePk u = true → u = t) :
    abs (applyNTomb d r t) = join (abs r) (abs (holding [] [t])) := by
  have hput : ∀ p : NTomb → Bool, (putNTomb t r.ntombs).any p = (r.ntombs.any p || (p t || false)) := fun p => by
    rw [any_putNTomb t r.ntombs hpk, Bool.or_false, Bool.or_comm]
  apply ARep.ext'
  · intro i
    show ((applyNTomb d r t).findId i).map _ =
      if ((abs r).dead i || (decide (t.id = i) || false)) = true then none else merge ((abs r).ver i) none
    rw [findId_applyNTomb r t hR, merge_none_right, Bool.or_false]
    by_cases e : i = t.id
    · simp [e]
    · rw [if_neg e, decide_eq_false (Ne.symm e), Bool.or_false]
      exact (hw.ver_ite i).symm
  · exact fun i => hput _
  · exact fun s => hput _

theorem abs_foldTombs (ts : List NTomb) :
    ∀ (r : Replica), (abs r).WF → ScopeOk d r.nodes ts → PkFun (fun x => x ∈ r.ntombs ∨ x ∈ ts) →
      abs (ts.foldl (applyNTomb d) r) = join (abs r) (abs (holding [] ts)) := by
  induction ts with
  | nil => exact fun r hw _ _ => (join_empty_right hw).symm
  | cons t rest ih =>
    intro r hw hR hpk
    have step := abs_applyNTomb (d := d) hw t
      (hR.mono (fun _ h => h) fun u hu => List.mem_singleton.mp hu ▸ List.mem_cons_self)
      (fun u hu hp => hpk t u (Or.inr List.mem_cons_self) (Or.inl hu) hp)
    have hR' : ScopeOk d (applyNTomb d r t).nodes rest :=
      hR.mono (fun n hn => (List.mem_filter.mp hn).1) fun u hu => List.mem_cons_of_mem _ hu
    have hpk' : PkFun (fun x => x ∈ (applyNTomb d r t).ntombs ∨ x ∈ rest) := by
      refine hpk.mono fun x hx => ?_
      rcases hx with hx | hx
      · exact (mem_putNTomb hx).elim (fun e => Or.inr (e ▸ List.mem_cons_self)) Or.inl
      · exact Or.inr (List.mem_cons_of_mem _ hx)
    rw [List.foldl_cons, ih _ (step ▸ join_wf _ _) hR' hpk', step, join_assoc, join_holding_tombs [t] rest]
    rfl

end tombs

/-- every member may change every row (the case in which no right is ever refused) -/
def AllRights (rights : Rights) : Prop := ∀ a own date, can rights a own date = true

/-- what a pull from `src` asks of the rights: the author of every row `src` stores holds the all-rows right at the
    date of that version, the author of every deletion record at the date of the deletion — no check of
    `validate_node` or `validate_node_deletions` on what `src` sends is refused, whatever the puller stores -/
def Entitled (rights : Rights) (src : Replica) : Prop :=
  (∀ n ∈ src.nodes, can rights n.author false n.mdate = true) ∧
  (∀ t ∈ src.ntombs, can rights t.author false t.ddate = true)

theorem AllRights.entitled {rights : Rights} (h : AllRights rights) (src : Replica) : Entitled rights src :=
  ⟨fun _ _ => h _ _ _, fun _ _ => h _ _ _⟩

theorem can_of_foreign {rights : Rights} {p date : Nat} (h : can rights p false date = true) :
    ∀ own, can rights p own date = true
  | false => h
  | true => rfl

theorem abs_ingestNode_ver {d : Defects} {rights : Rights} (r : Replica) {n : Node}
    (h : can rights n.author false n.mdate = true) (old : Option Node) (i : Nat) :
    (abs (ingestNode d rights r n old)).ver i = if i = n.id then some (n.mdate, n.sig) else (abs r).ver i := by
  unfold ingestNode
  rw [can_of_foreign h, if_pos rfl]
  show ((putNode n r.nodes).find? _).map _ = _
  rw [find_putNode]
  split <;> rfl

theorem foldIngest_ntombs {d : Defects} {rights : Rights} (req : List (Node × Option Node)) :
    ∀ (r : Replica), (req.foldl (fun r (x : Node × Option Node) => ingestNode d rights r x.1 x.2) r).ntombs = r.ntombs := by
  induction req with
  | nil => intro r; rfl
  | cons a t ih =>
    intro r
    rw [List.foldl_cons, ih, ingestNode_ntombs]

theorem ingest_ver {d : Defects} {rights : Rights} (w : Node → Option (Option Node)) (i : Nat) :
    ∀ (ns : List Node), (∀ n ∈ ns, can rights n.author false n.mdate = true) → (ns.map (·.id)).Nodup → ∀ r : Replica,
      (abs ((ns.filterMap fun n => (w n).map fun o => (n, o)).foldl
        (fun r (x : Node × Option Node) => ingestNode d rights r x.1 x.2) r)).ver i =
        match ns.find? fun n => n.id = i with
        | some n => if (w n).isSome then some (n.mdate, n.sig) else (abs r).ver i
        | none => (abs r).ver i
  | [], _, _, r => rfl
  | a :: t, hA, hn, r => by
    have hAt := fun n hn => hA n (List.mem_cons_of_mem a hn)
    rw [List.map_cons, List.nodup_cons] at hn
    have ht : a.id = i → t.find? (fun n => decide (n.id = i)) = none := fun e => by
      rw [List.find?_eq_none]
      intro x hx hxi
      exact hn.1 (List.mem_map.mpr ⟨x, hx, by simpa [e] using hxi⟩)
    rw [List.filterMap_cons, List.find?_cons]
    cases hw : w a with
    | none =>
      simp only [Option.map_none]
      rw [ingest_ver w i t hAt hn.2 r]
      by_cases e : a.id = i
      · simp [e, ht e, hw]
      · simp [e]
    | some o =>
      simp only [Option.map_some, List.foldl_cons]
      rw [ingest_ver w i t hAt hn.2 _, abs_ingestNode_ver _ (hA a List.mem_cons_self)]
      by_cases e : a.id = i
      · simp [e, ht e, hw]
      · simp [e, Ne.symm e]

theorem wanted_isSome {d : Defects} (hI : d.ingestIgnoresTombstones = false)
    (dst : Replica) (n : Node) (hR : ScopeOk d [n] dst.ntombs) :
    (wanted d dst n).isSome =
      (!(abs dst).dead n.id && match (abs dst).ver n.id with
        | none => true
        | some v => !decide (vle (n.mdate, n.sig) v)) := by
  -- a record of that row is a record of that row in the room consulted
  have hany : dst.ntombs.any (fun t => decide (t.id = n.id) && (!d.syncDeletionRoomScoped || decide (t.room = n.room))) =
      dst.ntombs.any (fun t => decide (t.id = n.id)) := by
    rw [Bool.eq_iff_iff]
    simp only [List.any_eq_true, Bool.and_eq_true, decide_eq_true_eq, Bool.or_eq_true, Bool.not_eq_true']
    constructor
    · rintro ⟨t, h1, h2, _⟩; exact ⟨t, h1, h2⟩
    · rintro ⟨t, h1, h2⟩; exact ⟨t, h1, h2, (hR n List.mem_cons_self t h1 h2.symm).imp id Eq.symm⟩
  unfold wanted
  simp only [hI, Bool.not_false, Bool.true_and, abs, hany, Bool.and_self]
  cases dst.ntombs.any (fun t => decide (t.id = n.id)) with
  | true => rfl
  | false =>
    simp only [Bool.false_eq_true, ↓reduceIte, Bool.not_false, Bool.true_and]
    cases dst.findId n.id with
    | none => rfl
    | some l =>
      -- the two refusals of `filter_existing` (older date; same date and a signature not greater) are together
      -- `vle (n.mdate, n.sig) (l.mdate, l.sig)`
      simp only [Option.map_some, vle, Bool.and_eq_true, decide_eq_true_eq]
      split
      · simp [*]
      · split <;> simp [*]

theorem abs_ingestWanted {d : Defects} (hI : d.ingestIgnoresTombstones = false) {rights : Rights}
    {r : Replica} (hw : (abs r).WF) {ns : List Node} (hA : ∀ n ∈ ns, can rights n.author false n.mdate = true)
    (hn : (ns.map (·.id)).Nodup) (hR : ScopeOk d ns r.ntombs) :
    abs ((ns.filterMap fun n => (wanted d r n).map fun o => (n, o)).foldl
      (fun r (x : Node × Option Node) => ingestNode d rights r x.1 x.2) r) = join (abs r) (abs (holding ns [])) := by
  have htombs := foldIngest_ntombs (d := d) (rights := rights) (ns.filterMap fun n => (wanted d r n).map fun o => (n, o)) r
  apply ARep.ext'
  · intro i
    rw [ingest_ver _ i ns hA hn r]
    show _ = if ((abs r).dead i || false) = true then none
      else merge ((abs r).ver i) ((ns.find? fun n => n.id = i).map fun n => (n.mdate, n.sig))
    rw [Bool.or_false]
    cases hfind : ns.find? (fun n => decide (n.id = i)) with
    | none =>
      rw [Option.map_none, merge_none_right]
      exact (hw.ver_ite i).symm
    | some n =>
      have hnid : n.id = i := (find_key_some hfind).2
      subst hnid
      have hRn : ScopeOk d [n] r.ntombs :=
        hR.mono (fun m hm => List.mem_singleton.mp hm ▸ List.mem_of_find?_eq_some hfind) fun _ h => h
      simp only [wanted_isSome hI r n hRn, Option.map_some]
      cases hd : (abs r).dead n.id with
      | true => simp [hw _ hd]
      | false =>
        cases (abs r).ver n.id with
        | none => rfl
        | some v =>
          show (if (!decide (vle (n.mdate, n.sig) v)) = true then some (n.mdate, n.sig) else some v) =
            if false = true then none else some (vmax v (n.mdate, n.sig))
          rw [vmax_comm]
          unfold vmax
          by_cases hle : vle (n.mdate, n.sig) v <;> simp [hle]
  · intro i
    show _ = ((abs r).dead i || false)
    rw [Bool.or_false]; simp only [abs, htombs]
  · intro s
    show _ = ((abs r).recs s || false)
    rw [Bool.or_false]; simp only [abs, htombs]

def slice (src : Replica) (room ent day : Nat) : Replica :=
  { nodes := src.nodes.filter fun n => n.room = room && n.ent = ent && dayOf n.mdate = day,
    edges := [],
    ntombs := src.ntombs.filter fun t => t.room = room && t.ent = ent && dayOf t.ddate = day,
    etombs := [], log := [] }

theorem mem_slice_nodes {src : Replica} {room ent day : Nat} {n : Node} :
    n ∈ (slice src room ent day).nodes ↔ n ∈ src.nodes ∧ n.room = room ∧ n.ent = ent ∧ dayOf n.mdate = day := by
  simp [slice, and_assoc]

theorem mem_slice_ntombs {src : Replica} {room ent day : Nat} {t : NTomb} :
    t ∈ (slice src room ent day).ntombs ↔ t ∈ src.ntombs ∧ t.room = room ∧ t.ent = ent ∧ dayOf t.ddate = day := by
  simp [slice, and_assoc]

theorem slice_noZombie {r : Replica} (h : NoZombie r) (room ent day : Nat) : NoZombie (slice r room ent day) :=
  fun t ht n hn => h t (mem_slice_ntombs.mp ht).1 n (mem_slice_nodes.mp hn).1

theorem slice_idsNodup {r : Replica} (h : IdsNodup r) (room ent day : Nat) : IdsNodup (slice r room ent day) :=
  h.sublist (List.filter_sublist.map _)

def DayRecordsDistinct (src : Replica) : Prop :=
  ∀ room ent day, ((src.ntombs.filter fun t => t.room = room && t.ent = ent && dayOf t.ddate = day).map (·.id)).Nodup

theorem validNTombs_all {rights : Rights} {ts : List NTomb} (h : ∀ t ∈ ts, can rights t.author false t.ddate = true)
    (dst : Replica) : validNTombs rights dst ts = ts := by
  unfold validNTombs
  rw [List.filter_eq_self]
  intro t ht
  split <;> exact can_of_foreign (h t ht) _

theorem dedupById_of_nodup : ∀ (l : List NTomb), (l.map (·.id)).Nodup → dedupById l = l
  | [], _ => rfl
  | t :: rest, h => by
    rw [List.map_cons, List.nodup_cons] at h
    have hno : rest.any (fun x => decide (x.id = t.id)) = false := by
      rw [List.any_eq_false]
      intro x hx e
      exact h.1 (List.mem_map.mpr ⟨x, hx, by simpa using e⟩)
    simp only [dedupById, hno, Bool.false_eq_true, ↓reduceIte, dedupById_of_nodup rest h.2]

/-- the records a day applies: those of the answer `ts` — in the order of the sub-batches, or, with batches keyed by
    row id, the answer itself when no two of its records name one row -/
theorem applyNTombs_eq_fold {d : Defects} {rights : Rights} (r : Replica) {ts : List NTomb}
    (hA : ∀ t ∈ ts, can rights t.author false t.ddate = true)
    (hK : d.deletionBatchKeyedById = false ∨ (ts.map (·.id)).Nodup) :
    ∃ ts' : List NTomb, (∀ x, x ∈ ts' ↔ x ∈ ts) ∧
      (if ts.isEmpty then r else applyNTombs d rights r ts) = ts'.foldl (applyNTomb d) r := by
  split
  · rename_i he
    exact ⟨[], fun x => by rw [List.isEmpty_iff.mp he], rfl⟩
  · cases hk : d.deletionBatchKeyedById with
    | false =>
      refine ⟨(subBatches ts.length ts).flatten, mem_subBatches_flatten _ _ (Nat.le_refl _), ?_⟩
      unfold applyNTombs
      rw [hk, if_neg Bool.false_ne_true, List.foldl_flatten]
      -- every sub-batch is made of records of the answer, and none of those is refused
      refine List.foldl_rel (r := Eq) rfl fun b hb r' _ e => ?_
      rw [e, validNTombs_all fun t ht => hA t (mem_of_mem_subBatches _ ts b t hb ht)]
    | true =>
      refine ⟨ts, fun _ => Iff.rfl, ?_⟩
      unfold applyNTombs
      rw [hk, if_pos rfl, dedupById_of_nodup ts (hK.resolve_left (by simp [hk])), validNTombs_all hA]

theorem foldEdges_same (es : List Edge) : ∀ (r : Replica),
    (es.foldl (fun r e => ({ r with edges := putEdge e r.edges } : Replica)) r).nodes = r.nodes ∧
    (es.foldl (fun r e => ({ r with edges := putEdge e r.edges } : Replica)) r).ntombs = r.ntombs := by
  induction es with
  | nil => exact fun r => ⟨rfl, rfl⟩
  | cons e t ih => exact fun r => ih _

/-- what the refinement asks of a puller and a source: room-scoped deletions and batches keyed by row id are off or
    harmless on the data, no stored row carries a record, a primary key names one record; every day of a pull keeps it -/
structure PairOk (d : Defects) (f : Nat → Nat) (dst src : Replica) : Prop where
  scope : d.syncDeletionRoomScoped = false ∨ (RoomFn f dst ∧ RoomFn f src)
  batch : d.deletionBatchKeyedById = false ∨ DayRecordsDistinct src
  dstClean : NoZombie dst
  srcClean : NoZombie src
  srcIds : IdsNodup src
  pk : PkFun (fun x => x ∈ dst.ntombs ∨ x ∈ src.ntombs)

section day
variable {d : Defects} {f : Nat → Nat} (hI : d.ingestIgnoresTombstones = false)

include hI in
/-- **refinement, one day.** What `synchronise_day` does to the rows and node deletion records of the puller is the
    join with the source's rows and records of that `(room, entity, day)` — for every model that consults the deletion
    log (#18 repaired), when no right is refused to what the source sends (`Entitled`), when the room scoping of
    deletions is off or rows keep their room, and when deletion batches are not keyed by row id or the source holds no
    two records of a row on one day.
    Whether references are fetched for every announced row or only for the fetched ones (#30) is immaterial here.
    Each stage of the day is a join: the reference deletions change nothing here, the node deletions join the records
    (`abs_foldTombs`), the rows fetched join the announced rows (`abs_ingestWanted`). -/
theorem syncDay_refines {rights : Rights} {dst src : Replica} (hE : Entitled rights src) (h : PairOk d f dst src)
    (room ent day : Nat) :
    abs (syncDay d rights dst src room ent day).dst = join (abs dst) (abs (slice src room ent day)) ∧
    PairOk d f (syncDay d rights dst src room ent day).dst src := by
  obtain ⟨hR, hK, hzd, hzs, hns, hpk⟩ := h
  -- the conditions are kept: no row is stored under a record, and every record stored was held by one of the two
  suffices hcore : abs (syncDay d rights dst src room ent day).dst = join (abs dst) (abs (slice src room ent day)) ∧
      ∀ x ∈ (syncDay d rights dst src room ent day).dst.ntombs, x ∈ dst.ntombs ∨ x ∈ src.ntombs by
    have hz' : NoZombie (syncDay d rights dst src room ent day).dst ∧
        (d.syncDeletionRoomScoped = false ∨ (RoomFn f (syncDay d rights dst src room ent day).dst ∧ RoomFn f src)) := by
      rcases hR with hR | ⟨hd, hs⟩
      · exact ⟨(syncDay_noZombie hI hR rights src hzd room ent day).1, Or.inl hR⟩
      · have hr := syncDay_roomFn d rights hd hs room ent day
        exact ⟨hr.noZombie (syncDay_noZombieR hI rights src hzd.toR room ent day).1, Or.inr ⟨hr, hs⟩⟩
    exact ⟨hcore.1, hz'.2, hK, hz'.1, hzs, hns, hpk.mono fun x hx => hx.elim (hcore.2 x) Or.inr⟩
  generalize hann : (src.nodes.filter fun n => n.room = room && n.ent = ent && dayOf n.mdate = day) = announced
  generalize hnts0 : (src.ntombs.filter fun t => t.room = room && t.ent = ent && dayOf t.ddate = day) = nts0
  have hsl : slice src room ent day = holding announced nts0 := by rw [← hann, ← hnts0]; rfl
  have hann_src : ∀ n ∈ announced, n ∈ src.nodes := fun n h => (List.mem_filter.mp (hann ▸ h)).1
  have hnts_src : ∀ t ∈ nts0, t ∈ src.ntombs := fun t h => (List.mem_filter.mp (hnts0 ▸ h)).1
  have hann_nodup : (announced.map (·.id)).Nodup := hann ▸ hns.sublist (List.filter_sublist.map _)
  have hdist : d.deletionBatchKeyedById = false ∨ (nts0.map (·.id)).Nodup := hK.imp id fun h => hnts0 ▸ h room ent day
  rw [hsl, ← join_tombs_rows (hsl ▸ slice_noZombie hzs room ent day), ← join_assoc]
  unfold syncDay
  simp only [hann, hnts0]
  -- 1. reference deletion records leave rows and node deletion records alone
  generalize (src.etombs.filter fun t => t.room = room && ent = 0 && dayOf t.ddate = day) = ets
  obtain ⟨n1, t1⟩ : (if ets.isEmpty then dst else applyETombs rights dst ets).nodes = dst.nodes ∧
      (if ets.isEmpty then dst else applyETombs rights dst ets).ntombs = dst.ntombs := by
    split
    · exact ⟨rfl, rfl⟩
    · exact applyETombs_same rights dst ets
  rw [← abs_congr n1 t1]
  have hw1 := abs_congr n1 t1 ▸ abs_wf hzd
  generalize (if ets.isEmpty then dst else applyETombs rights dst ets) = dst1 at *
  -- 2. the node deletion records: answered in primary-key order, applied one after the other
  generalize hnts : sortBy (fun (a b : NTomb) => lexL [a.ddate, a.id, a.ent] [b.ddate, b.id, b.ent]) nts0 = ntsS
  have hperm : ntsS.Perm nts0 := hnts ▸ sortBy_perm _ nts0
  obtain ⟨nts, hmemN, hd2⟩ := applyNTombs_eq_fold (d := d) dst1
    (fun t ht => hE.2 t (hnts_src t (hperm.mem_iff.mp ht))) (hdist.imp id (hperm.map _).nodup_iff.mpr)
  have hmem : ∀ x, x ∈ nts ↔ x ∈ nts0 := fun x => (hmemN x).trans hperm.mem_iff
  rw [hd2, ← abs_holding_congr hmem]
  have hR2 : ScopeOk d dst1.nodes nts :=
    (ScopeOk.of_roomFn hR).mono (fun n hn => List.mem_append_left _ (n1 ▸ hn))
      fun t ht => List.mem_append_right _ (hnts_src t ((hmem t).mp ht))
  have hpk2 : PkFun (fun x => x ∈ dst1.ntombs ∨ x ∈ nts) :=
    hpk.mono fun x hx => hx.imp (fun h => t1 ▸ h) fun h => hnts_src x ((hmem x).mp h)
  have e2 := abs_foldTombs (d := d) nts dst1 hw1 hR2 hpk2
  have hmem2 : ∀ x ∈ (nts.foldl (applyNTomb d) dst1).ntombs, x ∈ dst.ntombs ∨ x ∈ src.ntombs := fun x hx =>
    (foldTombs_mem nts dst1 x hx).imp (fun h => t1 ▸ h) fun h => hnts_src x ((hmem x).mp h)
  have hR3 : ScopeOk d announced (nts.foldl (applyNTomb d) dst1).ntombs :=
    (ScopeOk.of_roomFn hR).mono (fun n hn => List.mem_append_right _ (hann_src n hn))
      fun t ht => List.mem_append.mpr (hmem2 t ht)
  rw [← e2]
  have hw2 := e2 ▸ join_wf (abs dst1) (abs (holding [] nts))
  generalize nts.foldl (applyNTomb d) dst1 = dst2 at *
  -- 3. the rows; 4. the references only touch `edges`
  have e3 := abs_ingestWanted hI hw2 (fun n hn => hE.1 n (hann_src n hn)) hann_nodup hR3
  generalize (announced.filterMap fun n => (wanted d dst2 n).map fun o => (n, o)) = req at e3 ⊢
  cases hc : req.isEmpty && d.edgesOnlyForFetchedRows with
  | true =>
    -- nothing requested and references only fetched for requested rows: the day ends here
    rw [List.isEmpty_iff.mp (Bool.and_eq_true_iff.mp hc).1] at e3
    exact ⟨e3, hmem2⟩
  | false =>
    rw [if_neg Bool.false_ne_true]
    refine ⟨(abs_congr (foldEdges_same _ _).1 (foldEdges_same _ _).2).trans e3, fun x hx => hmem2 x ?_⟩
    rw [(foldEdges_same _ _).2, foldIngest_ntombs] at hx
    exact hx

end day

end Discret.Sync
