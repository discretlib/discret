import DiscretModel.Model.Room
import DiscretModel.Lemmas.Basic
/-
Lemmas about the shared room model (`Model/Room.lean`), used by C01 C07 C10 C12. Every history list of a room is
read by "the last inserted entry of the key dated `≤ d`" and extended only at the end, with a date not before the
key's last one; both are treated once, for lists keyed by a natural number (`glast`, `gadd`, `GWF`), and
instantiated for user and right entries. For rooms this gives: a successful add changes no decision at an earlier
date (`Room.past_stability`), and where equal key and date mean equal payload the decisions at `d` are a function
of the set of entries dated `≤ d` (`SameUpTo`), whatever their order (`glast_upTo`, `Room.sameAt_of_sameUpTo`,
`Room.sameAt_of_perm`).
-/
namespace Discret.Room

theorem list_rev_ind {β : Type} {P : List β → Prop} (h0 : P []) (h1 : ∀ l a, P l → P (l ++ [a])) :
    ∀ l, P l := by
  intro l
  rw [← List.reverse_reverse l]
  induction l.reverse with
  | nil => exact h0
  | cons a t ih => rw [List.reverse_cons]; exact h1 _ _ ih

section
variable {α : Type} (date : α → Int)

def SameUpTo (l₁ l₂ : List α) (d : Int) : Prop := ∀ v, date v ≤ d → (v ∈ l₁ ↔ v ∈ l₂)

theorem SameUpTo.symm {l₁ l₂ : List α} {d : Int} (h : SameUpTo date l₁ l₂ d) : SameUpTo date l₂ l₁ d :=
  fun v hv => (h v hv).symm

end

section Generic
variable {α : Type} (key : α → Nat) (date : α → Int)

def GWF (l : List α) : Prop := l.Pairwise fun a b => key a = key b → date a ≤ date b

/-- the lookup of room.rs: `iter().rev().find(|u| u.date <= d)` on the vector of key `k` -/
def glast (l : List α) (k : Nat) (d : Int) : Option α :=
  (l.filter fun a => key a = k).reverse.find? fun a => date a ≤ d

theorem gwf_nil : GWF key date ([] : List α) := List.Pairwise.nil

theorem glast_append (l : List α) (u : α) (k : Nat) (d : Int) :
    glast key date (l ++ [u]) k d = if key u = k ∧ date u ≤ d then some u else glast key date l k d := by
  by_cases hk : key u = k <;> by_cases hd : date u ≤ d <;>
    simp [glast, List.filter_append, List.filter, hk, hd]

theorem glast_append_of_lt (l : List α) (u : α) (k : Nat) {d : Int} (h : d < date u) :
    glast key date (l ++ [u]) k d = glast key date l k d := by
  rw [glast_append, if_neg fun hc => Int.not_le.mpr h hc.2]

theorem glast_append_of_ne (l : List α) (u : α) {k : Nat} (h : key u ≠ k) (d : Int) :
    glast key date (l ++ [u]) k d = glast key date l k d := by
  rw [glast_append, if_neg fun hc => h hc.1]

theorem glast_append_of_le (l : List α) (u : α) {d : Int} (h : date u ≤ d) :
    glast key date (l ++ [u]) (key u) d = some u := by
  rw [glast_append, if_pos ⟨rfl, h⟩]

theorem glast_some_mem {l : List α} {k : Nat} {d : Int} {u : α} (h : glast key date l k d = some u) :
    u ∈ l ∧ key u = k ∧ date u ≤ d := by
  have h1 := List.mem_of_find?_eq_some h
  have h2 := List.find?_some h
  rw [List.mem_reverse, List.mem_filter] at h1
  exact ⟨h1.1, by simpa using h1.2, by simpa using h2⟩

theorem glast_none_iff {l : List α} {k : Nat} {d : Int} :
    glast key date l k d = none ↔ ∀ v ∈ l, key v = k → ¬ date v ≤ d := by
  simp only [glast, List.find?_eq_none, List.mem_reverse, List.mem_filter, decide_eq_true_eq]
  constructor
  · intro h v hv hk; exact h v ⟨hv, hk⟩
  · intro h v hv; exact h v hv.1 hv.2

theorem glast_is_last {l : List α} {k : Nat} {d : Int} {u : α} (h : glast key date l k d = some u) :
    ∃ l₁ l₂, l = l₁ ++ u :: l₂ ∧ ∀ v ∈ l₂, key v = k → ¬ date v ≤ d := by
  induction l using list_rev_ind with
  | h0 => cases h
  | h1 l a ih =>
    rw [glast_append] at h
    by_cases hit : key a = k ∧ date a ≤ d
    · rw [if_pos hit] at h; cases h; exact ⟨l, [], rfl, nofun⟩
    · rw [if_neg hit] at h
      obtain ⟨l₁, l₂, rfl, hl⟩ := ih h
      refine ⟨l₁, l₂ ++ [a], by simp, fun v hv hkv hdv => ?_⟩
      rcases List.mem_append.mp hv with hv | hv
      · exact hl v hv hkv hdv
      · cases List.mem_singleton.mp hv; exact hit ⟨hkv, hdv⟩

/-- what the lookup returns when the dates of a key do not decrease: an entry of the key with the greatest date `≤ d` -/
def GSpec (l : List α) (k : Nat) (d : Int) (u : α) : Prop :=
  u ∈ l ∧ key u = k ∧ date u ≤ d ∧ ∀ v ∈ l, key v = k → date v ≤ d → date v ≤ date u

theorem glast_spec {l : List α} (hw : GWF key date l) {k : Nat} {d : Int} {u : α}
    (h : glast key date l k d = some u) : GSpec key date l k d u := by
  obtain ⟨hm, hk, hd⟩ := glast_some_mem key date h
  refine ⟨hm, hk, hd, ?_⟩
  obtain ⟨l₁, l₂, rfl, hl⟩ := glast_is_last key date h
  intro v hv hkv hdv
  rcases List.mem_append.mp hv with hv | hv
  · have := (List.pairwise_append.mp hw).2.2 v hv u (List.mem_cons_self ..)
    exact this (hkv.trans hk.symm)
  · rcases List.mem_cons.mp hv with hv | hv
    · subst hv; exact Int.le_refl _
    · exact absurd hdv (hl v hv hkv)

/-- the condition under which room.rs appends: `u` is not dated before the last entry of its key -/
def gaddOk (l : List α) (u : α) : Prop :=
  ∀ last, (l.filter fun a => key a = key u).getLast? = some last → date last ≤ date u

/-- the append-only insertion of room.rs, for any entry type -/
def gadd (e : Err) (l : List α) (u : α) : Except Err (List α) :=
  match (l.filter fun a => key a = key u).getLast? with
  | some last => if date last > date u then .error e else .ok (l ++ [u])
  | none => .ok (l ++ [u])

theorem gadd_ok {e : Err} {l l' : List α} {u : α} (h : gadd key date e l u = .ok l') :
    l' = l ++ [u] ∧ gaddOk key date l u := by
  unfold gadd at h
  split at h
  · rename_i last hl
    obtain ⟨hgt, h⟩ := of_ite_ne h nofun
    cases h
    exact ⟨rfl, fun last' hl' => by rw [hl] at hl'; cases hl'; exact Int.not_lt.mp hgt⟩
  · rename_i hl
    cases h
    exact ⟨rfl, fun last hl' => by rw [hl] at hl'; cases hl'⟩

theorem gadd_error {e e' : Err} {l : List α} {u : α} (h : gadd key date e l u = .error e') :
    e' = e ∧ ∃ last, (l.filter fun a => key a = key u).getLast? = some last ∧ date last > date u := by
  unfold gadd at h
  split at h
  · rename_i last hl
    by_cases hgt : date last > date u
    · rw [if_pos hgt] at h; cases h; exact ⟨rfl, last, hl, hgt⟩
    · rw [if_neg hgt] at h; cases h
  · cases h

theorem gadd_of_ok {e : Err} {l : List α} {u : α} (h : gaddOk key date l u) :
    gadd key date e l u = .ok (l ++ [u]) := by
  unfold gadd
  split
  · rename_i last hl
    rw [if_neg (Int.not_lt.mpr (h last hl))]
  · rfl

theorem gwf_append {l : List α} (hw : GWF key date l) {u : α} (ha : gaddOk key date l u) :
    GWF key date (l ++ [u]) := by
  refine List.pairwise_append.mpr ⟨hw, List.pairwise_singleton _ _, fun a hal b hb hab => ?_⟩
  cases List.mem_singleton.mp hb
  -- `a` lies in the vector of `key u`, which is ordered and ends with an entry dated `≤ date u`
  have hmem : a ∈ l.filter fun x => key x = key u := List.mem_filter.mpr ⟨hal, decide_eq_true hab⟩
  have hwf : GWF key date (l.filter fun x => key x = key u) := hw.sublist List.filter_sublist
  cases hl : (l.filter fun x => key x = key u).getLast? with
  | none => rw [List.getLast?_eq_none_iff.mp hl] at hmem; cases hmem
  | some last =>
    have hlast := ha last hl
    have hk : key last = key u := of_decide_eq_true (List.mem_filter.mp (List.mem_of_getLast? hl)).2
    obtain ⟨ys, hys⟩ := List.getLast?_eq_some_iff.mp hl
    rw [hys] at hmem hwf
    rcases List.mem_append.mp hmem with hm | hm
    · have h1 := (List.pairwise_append.mp hwf).2.2 a hm last (List.mem_singleton.mpr rfl)
      exact Int.le_trans (h1 (hab.trans hk.symm)) hlast
    · cases List.mem_singleton.mp hm; exact hlast

theorem gaddOk_of_gwf {l : List α} {u : α} (hw : GWF key date (l ++ [u])) : gaddOk key date l u := by
  intro last hl
  have hm : last ∈ l.filter fun a => key a = key u := List.mem_of_getLast? hl
  have := (List.pairwise_append.mp hw).2.2 last (List.mem_filter.mp hm).1 u (List.mem_singleton.mpr rfl)
  exact this (by simpa using (List.mem_filter.mp hm).2)

theorem GSpec.upTo {l₁ l₂ : List α} {d : Int} (hs : ∀ v, date v ≤ d → (v ∈ l₁ ↔ v ∈ l₂)) {k : Nat} {u : α}
    (h : GSpec key date l₁ k d u) : GSpec key date l₂ k d u :=
  ⟨(hs u h.2.2.1).mp h.1, h.2.1, h.2.2.1, fun v hv hk hd => h.2.2.2 v ((hs v hd).mpr hv) hk hd⟩

theorem GSpec.perm {l₁ l₂ : List α} (hp : l₁.Perm l₂) {k : Nat} {d : Int} {u : α}
    (h : GSpec key date l₁ k d u) : GSpec key date l₂ k d u :=
  GSpec.upTo key date (fun _ _ => hp.mem_iff) h

/-- `GSpec` fixes the key and the date of the entry, not the entry -/
theorem GSpec.unique {l : List α} {k : Nat} {d : Int} {u v : α} (hu : GSpec key date l k d u)
    (hv : GSpec key date l k d v) : key u = key v ∧ date u = date v :=
  ⟨hu.2.1.trans hv.2.1.symm,
   Int.le_antisymm (hv.2.2.2 u hu.1 hu.2.1 hu.2.2.1) (hu.2.2.2 v hv.1 hv.2.1 hv.2.2.1)⟩

theorem glast_upTo {β : Type} {l₁ l₂ : List α} {d : Int} (hs : SameUpTo date l₁ l₂ d)
    (h1 : GWF key date l₁) (h2 : GWF key date l₂)
    {f : α → β} (hf : ∀ u ∈ l₁, ∀ v ∈ l₁, key u = key v → date u = date v → f u = f v) (k : Nat) :
    (glast key date l₁ k d).map f = (glast key date l₂ k d).map f := by
  cases e1 : glast key date l₁ k d with
  | none =>
    rw [glast_none_iff] at e1
    rw [(glast_none_iff key date).mpr fun v hv hk hd => e1 v ((hs v hd).mpr hv) hk hd]
  | some u =>
    have su := glast_spec key date h1 e1
    cases e2 : glast key date l₂ k d with
    | none => exact absurd su.2.2.1 ((glast_none_iff key date).mp e2 u ((hs u su.2.2.1).mp su.1) su.2.1)
    | some v =>
      -- `u` and `v` both meet the specification in `l₁`, so they have the same key and date
      have sv := GSpec.upTo key date (fun w hw => (hs w hw).symm) (glast_spec key date h2 e2)
      obtain ⟨hk, hd⟩ := GSpec.unique key date su sv
      exact congrArg some (hf u su.1 v sv.1 hk hd)

end Generic

def UserWF (l : List User) : Prop := GWF User.key User.date l

theorem lastAt_eq_glast (l : List User) (k : Key) (d : Int) :
    lastAt l k d = glast User.key User.date l k d := rfl

theorem userWF_nil : UserWF [] := gwf_nil _ _

theorem addUserEntry_eq_gadd (l : List User) (u : User) :
    addUserEntry l u = gadd User.key User.date .invalidUserDate l u := by
  unfold addUserEntry gadd
  cases (l.filter (·.key = u.key)).getLast? <;> rfl

theorem addUserEntry_ok {l l' : List User} {u : User} (h : addUserEntry l u = .ok l') :
    l' = l ++ [u] ∧ gaddOk User.key User.date l u :=
  gadd_ok User.key User.date (addUserEntry_eq_gadd l u ▸ h)

theorem addUserEntry_error {l : List User} {u : User} {e : Err} (h : addUserEntry l u = .error e) :
    e = .invalidUserDate ∧ ∃ last, (l.filter (·.key = u.key)).getLast? = some last ∧ last.date > u.date :=
  gadd_error User.key User.date (addUserEntry_eq_gadd l u ▸ h)

theorem addUserEntry_of_ok {l : List User} {u : User} (h : gaddOk User.key User.date l u) :
    addUserEntry l u = .ok (l ++ [u]) :=
  (addUserEntry_eq_gadd l u).trans (gadd_of_ok User.key User.date h)

theorem addUserEntry_wf {l l' : List User} {u : User} (hw : UserWF l) (h : addUserEntry l u = .ok l') :
    UserWF l' := by
  obtain ⟨rfl, ha⟩ := addUserEntry_ok h
  exact gwf_append _ _ hw ha

/-- C10 (claimed by the check's level text): under the per-key date order, `lastAt` is an entry of the key with the
    greatest date `≤ d` -/
theorem lastAt_spec {l : List User} (hw : UserWF l) {k : Key} {d : Int} {u : User}
    (h : lastAt l k d = some u) :
    u ∈ l ∧ u.key = k ∧ u.date ≤ d ∧ ∀ v ∈ l, v.key = k → v.date ≤ d → v.date ≤ u.date :=
  glast_spec User.key User.date hw h

/-- C10 (claimed by the check's level text): `lastAt` is the last inserted entry of the key dated `≤ d` -/
theorem lastAt_is_last {l : List User} {k : Key} {d : Int} {u : User} (h : lastAt l k d = some u) :
    ∃ l₁ l₂, l = l₁ ++ u :: l₂ ∧ ∀ v ∈ l₂, v.key = k → ¬ v.date ≤ d :=
  glast_is_last User.key User.date h

theorem lastAt_none_iff {l : List User} {k : Key} {d : Int} :
    lastAt l k d = none ↔ ∀ v ∈ l, v.key = k → ¬ v.date ≤ d :=
  glast_none_iff User.key User.date

theorem enabledAt_congr {l₁ l₂ : List User} {k : Key}
    (h : l₁.filter (·.key = k) = l₂.filter (·.key = k)) (d : Int) :
    enabledAt l₁ k d = enabledAt l₂ k d := by
  simp only [enabledAt, lastAt, h]

theorem enabledAt_add_past {l l' : List User} {u : User} (h : addUserEntry l u = .ok l') (k : Key)
    {d : Int} (hd : d < u.date) : enabledAt l' k d = enabledAt l k d := by
  obtain ⟨rfl, _⟩ := addUserEntry_ok h
  simp only [enabledAt, lastAt_eq_glast, glast_append_of_lt User.key User.date l u k hd]

theorem enabledAt_add_other {l l' : List User} {u : User} (h : addUserEntry l u = .ok l') {k : Key}
    (hk : u.key ≠ k) (d : Int) : enabledAt l' k d = enabledAt l k d := by
  obtain ⟨rfl, _⟩ := addUserEntry_ok h
  simp only [enabledAt, lastAt_eq_glast, glast_append_of_ne User.key User.date l u hk]

theorem enabledAt_add_self {l l' : List User} {u : User} (h : addUserEntry l u = .ok l')
    {d : Int} (hd : u.date ≤ d) : enabledAt l' u.key d = u.enabled := by
  obtain ⟨rfl, _⟩ := addUserEntry_ok h
  simp only [enabledAt, lastAt_eq_glast, glast_append_of_le User.key User.date l u hd]

def UserFunc (l : List User) : Prop :=
  ∀ u ∈ l, ∀ v ∈ l, u.key = v.key → u.date = v.date → u.enabled = v.enabled

theorem enabledAt_eq_getD (l : List User) (k : Key) (d : Int) :
    enabledAt l k d = ((lastAt l k d).map (·.enabled)).getD false := by
  unfold enabledAt; cases lastAt l k d <;> rfl

theorem enabledAt_none_before {l : List User} {d : Int} (h : ∀ u ∈ l, d < u.date) (k : Key) : enabledAt l k d = false := by
  have : lastAt l k d = none := lastAt_none_iff.mpr (fun v hv _ hd => by have := h v hv; omega)
  simp [enabledAt, this]

theorem enabledAt_upTo {l₁ l₂ : List User} {d : Int} (hs : SameUpTo User.date l₁ l₂ d)
    (h1 : UserWF l₁) (h2 : UserWF l₂) (hf : UserFunc l₁) (k : Key) : enabledAt l₁ k d = enabledAt l₂ k d := by
  rw [enabledAt_eq_getD, enabledAt_eq_getD, lastAt_eq_glast, lastAt_eq_glast,
    glast_upTo User.key User.date hs h1 h2 hf k]

def RightWF (l : List Right) : Prop := GWF Right.entity Right.validFrom l

theorem rightAt_eq_glast (l : List Right) (e : Ent) (d : Int) :
    rightAt l e d = glast Right.entity Right.validFrom l e d := rfl

theorem rightWF_nil : RightWF [] := gwf_nil _ _

theorem addRightEntry_eq_gadd (l : List Right) (r : Right) :
    addRightEntry l r = gadd Right.entity Right.validFrom .invalidRightDate l r := by
  unfold addRightEntry gadd
  cases (l.filter (·.entity = r.entity)).getLast? <;> rfl

theorem addRightEntry_ok {l l' : List Right} {r : Right} (h : addRightEntry l r = .ok l') :
    l' = l ++ [r] ∧ gaddOk Right.entity Right.validFrom l r :=
  gadd_ok Right.entity Right.validFrom (addRightEntry_eq_gadd l r ▸ h)

theorem addRightEntry_error {l : List Right} {r : Right} {e : Err} (h : addRightEntry l r = .error e) :
    e = .invalidRightDate ∧
      ∃ last, (l.filter (·.entity = r.entity)).getLast? = some last ∧ last.validFrom > r.validFrom :=
  gadd_error Right.entity Right.validFrom (addRightEntry_eq_gadd l r ▸ h)

theorem addRightEntry_of_ok {l : List Right} {r : Right} (h : gaddOk Right.entity Right.validFrom l r) :
    addRightEntry l r = .ok (l ++ [r]) :=
  (addRightEntry_eq_gadd l r).trans (gadd_of_ok Right.entity Right.validFrom h)

theorem addRightEntry_wf {l l' : List Right} {r : Right} (hw : RightWF l) (h : addRightEntry l r = .ok l') :
    RightWF l' := by
  obtain ⟨rfl, ha⟩ := addRightEntry_ok h
  exact gwf_append _ _ hw ha

theorem rightAt_spec {l : List Right} (hw : RightWF l) {e : Ent} {d : Int} {r : Right}
    (h : rightAt l e d = some r) :
    r ∈ l ∧ r.entity = e ∧ r.validFrom ≤ d ∧
      ∀ v ∈ l, v.entity = e → v.validFrom ≤ d → v.validFrom ≤ r.validFrom :=
  glast_spec Right.entity Right.validFrom hw h

theorem rightAt_none_iff {l : List Right} {e : Ent} {d : Int} :
    rightAt l e d = none ↔ ∀ v ∈ l, v.entity = e → ¬ v.validFrom ≤ d :=
  glast_none_iff Right.entity Right.validFrom

theorem rightAt_add_past {l l' : List Right} {r : Right} (h : addRightEntry l r = .ok l') (e : Ent)
    {d : Int} (hd : d < r.validFrom) : rightAt l' e d = rightAt l e d := by
  obtain ⟨rfl, _⟩ := addRightEntry_ok h
  simp only [rightAt_eq_glast, glast_append_of_lt Right.entity Right.validFrom l r e hd]

theorem rightAt_add_other {l l' : List Right} {r : Right} (h : addRightEntry l r = .ok l') {e : Ent}
    (he : r.entity ≠ e) (d : Int) : rightAt l' e d = rightAt l e d := by
  obtain ⟨rfl, _⟩ := addRightEntry_ok h
  simp only [rightAt_eq_glast, glast_append_of_ne Right.entity Right.validFrom l r he]

def RightFunc (l : List Right) : Prop :=
  ∀ u ∈ l, ∀ v ∈ l, u.entity = v.entity → u.validFrom = v.validFrom →
    u.mutSelf = v.mutSelf ∧ u.mutAll = v.mutAll

/-- what `Auth.can` reads from a right list -/
def rightsCan (l : List Right) (e : Ent) (d : Int) (rt : RightType) : Bool :=
  match rightAt l e d with
  | some r => r.grants rt
  | none =>
    match rightAt l wildcard d with
    | some r => r.grants rt
    | none => false

theorem Auth.can_eq (a : Auth) (e : Ent) (d : Int) (rt : RightType) :
    a.can e d rt = rightsCan a.rights e d rt := rfl

theorem rightsCan_congr {l₁ l₂ : List Right}
    (h : ∀ e, l₁.filter (·.entity = e) = l₂.filter (·.entity = e)) (e : Ent) (d : Int) (rt : RightType) :
    rightsCan l₁ e d rt = rightsCan l₂ e d rt := by
  simp only [rightsCan, rightAt, h e, h wildcard]

theorem rightsCan_eq_getD (l : List Right) (e : Ent) (d : Int) (rt : RightType) :
    rightsCan l e d rt =
      ((rightAt l e d).map (·.grants rt)).getD (((rightAt l wildcard d).map (·.grants rt)).getD false) := by
  unfold rightsCan; cases rightAt l e d <;> cases rightAt l wildcard d <;> rfl

theorem rightsCan_none_before {l : List Right} {d : Int} (h : ∀ x ∈ l, d < x.validFrom) (e : Ent) (rt : RightType) :
    rightsCan l e d rt = false := by
  have n : ∀ e', rightAt l e' d = none := fun e' =>
    rightAt_none_iff.mpr (fun v hv _ hd => by have := h v hv; omega)
  simp [rightsCan, n]

theorem rightsCan_upTo {l₁ l₂ : List Right} {d : Int} (hs : SameUpTo Right.validFrom l₁ l₂ d)
    (h1 : RightWF l₁) (h2 : RightWF l₂) (hf : RightFunc l₁) (e : Ent) (rt : RightType) :
    rightsCan l₁ e d rt = rightsCan l₂ e d rt := by
  have hg : ∀ u ∈ l₁, ∀ v ∈ l₁, u.entity = v.entity → u.validFrom = v.validFrom → u.grants rt = v.grants rt := by
    intro u hu v hv hk hd
    obtain ⟨hself, hall⟩ := hf u hu v hv hk hd
    cases rt
    · exact hself
    · exact hall
  rw [rightsCan_eq_getD, rightsCan_eq_getD, rightAt_eq_glast, rightAt_eq_glast, rightAt_eq_glast, rightAt_eq_glast,
    glast_upTo Right.entity Right.validFrom hs h1 h2 hg e,
    glast_upTo Right.entity Right.validFrom hs h1 h2 hg wildcard]

structure Auth.WF (a : Auth) : Prop where
  users : UserWF a.users
  userAdmins : UserWF a.userAdmins
  rights : RightWF a.rights

structure Room.WF (r : Room) : Prop where
  admins : UserWF r.admins
  auths : ∀ a ∈ r.auths, a.WF
  ids : (r.auths.map (·.id)).Nodup

theorem Room.wf_empty (id : Id) (mdate : Int) : (Room.empty id mdate).WF :=
  ⟨userWF_nil, (by intro a h; cases h), List.nodup_nil⟩

theorem Auth.wf_empty (id : Id) (mdate : Int) :
    ({ id, mdate, users := [], rights := [], userAdmins := [] } : Auth).WF :=
  ⟨userWF_nil, userWF_nil, rightWF_nil⟩

theorem Auth.addUser_ok {a a' : Auth} {u : User} (h : a.addUser u = .ok a') :
    ∃ l, addUserEntry a.users u = .ok l ∧ a' = { a with users := l } := by
  unfold Auth.addUser at h
  split at h
  · cases h; exact ⟨_, ‹_›, rfl⟩
  · cases h

theorem Auth.addUserAdmin_ok {a a' : Auth} {u : User} (h : a.addUserAdmin u = .ok a') :
    ∃ l, addUserEntry a.userAdmins u = .ok l ∧ a' = { a with userAdmins := l } := by
  unfold Auth.addUserAdmin at h
  split at h
  · cases h; exact ⟨_, ‹_›, rfl⟩
  · cases h

theorem Auth.addRight_ok {a a' : Auth} {r : Right} (h : a.addRight r = .ok a') :
    ∃ l, addRightEntry a.rights r = .ok l ∧ a' = { a with rights := l } := by
  unfold Auth.addRight at h
  split at h
  · cases h; exact ⟨_, ‹_›, rfl⟩
  · cases h

theorem Room.addAdmin_ok {r r' : Room} {u : User} (h : r.addAdmin u = .ok r') :
    ∃ l, addUserEntry r.admins u = .ok l ∧ r' = { r with admins := l } := by
  unfold Room.addAdmin at h
  split at h
  · cases h; exact ⟨_, ‹_›, rfl⟩
  · cases h

theorem Room.addAuth_ok {r r' : Room} {a : Auth} (h : r.addAuth a = .ok r') :
    r.auths.any (·.id = a.id) = false ∧ r' = { r with auths := r.auths ++ [a] } := by
  rw [Room.addAuth] at h
  by_cases hc : r.auths.any (·.id = a.id) = true
  · rw [if_pos hc] at h; cases h
  · rw [if_neg hc] at h; cases h; exact ⟨Bool.eq_false_iff.mpr hc, rfl⟩

theorem Auth.addUser_wf {a a' : Auth} {u : User} (hw : a.WF) (h : a.addUser u = .ok a') : a'.WF := by
  obtain ⟨l, hl, rfl⟩ := Auth.addUser_ok h
  exact ⟨addUserEntry_wf hw.users hl, hw.userAdmins, hw.rights⟩

theorem Auth.addUserAdmin_wf {a a' : Auth} {u : User} (hw : a.WF) (h : a.addUserAdmin u = .ok a') :
    a'.WF := by
  obtain ⟨l, hl, rfl⟩ := Auth.addUserAdmin_ok h
  exact ⟨hw.users, addUserEntry_wf hw.userAdmins hl, hw.rights⟩

theorem Auth.addRight_wf {a a' : Auth} {r : Right} (hw : a.WF) (h : a.addRight r = .ok a') : a'.WF := by
  obtain ⟨l, hl, rfl⟩ := Auth.addRight_ok h
  exact ⟨hw.users, hw.userAdmins, addRightEntry_wf hw.rights hl⟩

theorem Room.addAdmin_wf {r r' : Room} {u : User} (hw : r.WF) (h : r.addAdmin u = .ok r') : r'.WF := by
  obtain ⟨l, hl, rfl⟩ := Room.addAdmin_ok h
  exact ⟨addUserEntry_wf hw.admins hl, hw.auths, hw.ids⟩

theorem Room.addAuth_wf {r r' : Room} {a : Auth} (hw : r.WF) (ha : a.WF) (h : r.addAuth a = .ok r') :
    r'.WF := by
  obtain ⟨hn, rfl⟩ := Room.addAuth_ok h
  refine ⟨hw.admins, fun x hx => ?_, nodup_key_append Auth.id hw.ids hn⟩
  rcases List.mem_append.mp hx with hx | hx
  · exact hw.auths x hx
  · cases List.mem_singleton.mp hx; exact ha

theorem Room.setAuth_ids (r : Room) (a : Auth) : (r.setAuth a).auths.map (·.id) = r.auths.map (·.id) :=
  map_key_replace Auth.id r.auths a

theorem Room.setAuth_wf {r : Room} {a : Auth} (hw : r.WF) (ha : a.WF) : (r.setAuth a).WF := by
  refine ⟨hw.admins, ?_, by rw [Room.setAuth_ids]; exact hw.ids⟩
  intro x hx
  simp only [Room.setAuth, List.mem_map] at hx
  obtain ⟨y, hy, rfl⟩ := hx
  split
  · exact ha
  · exact hw.auths y hy

structure Auth.SameAt (a b : Auth) (d : Int) : Prop where
  valid : ∀ k, a.isUserValidAt k d = b.isUserValidAt k d
  userAdmin : ∀ k, a.canAdminUsers k d = b.canAdminUsers k d
  can : ∀ e rt, a.can e d rt = b.can e d rt

structure Room.SameAt (r s : Room) (d : Int) : Prop where
  admin : ∀ k, r.isAdmin k d = s.isAdmin k d
  valid : ∀ k, r.isUserValidAt k d = s.isUserValidAt k d
  userAdmin : ∀ gid k, r.canAdminUsers gid k d = s.canAdminUsers gid k d
  can : ∀ k e rt, r.can k e d rt = s.can k e d rt

theorem Auth.SameAt.refl (a : Auth) (d : Int) : a.SameAt a d := ⟨fun _ => rfl, fun _ => rfl, fun _ _ => rfl⟩

theorem Auth.SameAt.symm {a b : Auth} {d : Int} (h : a.SameAt b d) : b.SameAt a d :=
  ⟨fun k => (h.valid k).symm, fun k => (h.userAdmin k).symm, fun e rt => (h.can e rt).symm⟩

theorem Auth.sameAt_of_lists {a b : Auth} {d : Int}
    (hu : ∀ k, enabledAt a.users k d = enabledAt b.users k d)
    (ha : ∀ k, enabledAt a.userAdmins k d = enabledAt b.userAdmins k d)
    (hr : ∀ e rt, rightsCan a.rights e d rt = rightsCan b.rights e d rt) : a.SameAt b d :=
  ⟨fun k => by simp only [Auth.isUserValidAt, hu k, ha k], fun k => by simp only [Auth.canAdminUsers, ha k],
   fun e rt => by simp only [Auth.can_eq, hr e rt]⟩

theorem Room.SameAt.refl (r : Room) (d : Int) : r.SameAt r d :=
  ⟨fun _ => rfl, fun _ => rfl, fun _ _ => rfl, fun _ _ _ => rfl⟩

theorem Room.SameAt.symm {r s : Room} {d : Int} (h : r.SameAt s d) : s.SameAt r d :=
  ⟨fun k => (h.admin k).symm, fun k => (h.valid k).symm, fun g k => (h.userAdmin g k).symm,
   fun k e rt => (h.can k e rt).symm⟩

theorem Room.SameAt.trans {r s t : Room} {d : Int} (h1 : r.SameAt s d) (h2 : s.SameAt t d) : r.SameAt t d :=
  ⟨fun k => (h1.admin k).trans (h2.admin k), fun k => (h1.valid k).trans (h2.valid k),
   fun g k => (h1.userAdmin g k).trans (h2.userAdmin g k),
   fun k e rt => (h1.can k e rt).trans (h2.can k e rt)⟩

theorem Room.can_iff (r : Room) (k : Key) (e : Ent) (d : Int) (rt : RightType) :
    r.can k e d rt = true ↔
      ∃ a ∈ r.auths, (r.isAdmin k d = true ∨ a.isUserValidAt k d = true) ∧ a.can e d rt = true := by
  simp only [Room.can, List.any_eq_true, Bool.and_eq_true, Bool.or_eq_true]

theorem Room.isUserValidAt_iff (r : Room) (k : Key) (d : Int) :
    r.isUserValidAt k d = true ↔ r.isAdmin k d = true ∨ ∃ a ∈ r.auths, a.isUserValidAt k d = true := by
  simp only [Room.isUserValidAt, Room.isAdmin, Bool.or_eq_true, List.any_eq_true]

theorem Auth.can_iff (a : Auth) (e : Ent) (d : Int) (rt : RightType) :
    a.can e d rt = true ↔
      ∃ x, x.grants rt = true ∧
        (rightAt a.rights e d = some x ∨ (rightAt a.rights e d = none ∧ rightAt a.rights wildcard d = some x)) := by
  simp only [Auth.can]
  cases h1 : rightAt a.rights e d with
  | some x => simp
  | none =>
    cases h2 : rightAt a.rights wildcard d with
    | some y => simp
    | none => simp

theorem getAuth_some {r : Room} {gid : Id} {a : Auth} (h : r.getAuth gid = some a) :
    a ∈ r.auths ∧ a.id = gid :=
  find_key_some (key := Auth.id) h

theorem getAuth_of_mem {r : Room} (hn : (r.auths.map (·.id)).Nodup) {a : Auth} (ha : a ∈ r.auths) :
    r.getAuth a.id = some a :=
  find_of_mem_nodup Auth.id hn ha

theorem getAuth_none {r : Room} {gid : Id} (h : r.getAuth gid = none) : ∀ a ∈ r.auths, a.id ≠ gid :=
  find_key_none (key := Auth.id) h

theorem getAuth_eq_none {r : Room} {gid : Id} (h : ∀ a ∈ r.auths, a.id ≠ gid) : r.getAuth gid = none := by
  unfold Room.getAuth
  rw [List.find?_eq_none]
  intro a ha; simpa using h a ha

/-- with distinct group ids the lookup of a group is an `any` like the other decisions of a room -/
theorem Room.canAdminUsers_eq_any {r : Room} (hn : (r.auths.map (·.id)).Nodup) (gid : Id) (k : Key) (d : Int) :
    r.canAdminUsers gid k d = r.auths.any fun a => a.id = gid && a.canAdminUsers k d := by
  unfold Room.canAdminUsers
  cases e : r.getAuth gid with
  | none => exact (List.any_eq_false.mpr fun a ha => by simp [getAuth_none e a ha]).symm
  | some a =>
    obtain ⟨ha, hid⟩ := getAuth_some e
    rw [Bool.eq_iff_iff, List.any_eq_true]
    refine ⟨fun h => ⟨a, ha, by simp [hid, h]⟩, fun ⟨b, hb, hfb⟩ => ?_⟩
    simp only [Bool.and_eq_true, decide_eq_true_eq] at hfb
    exact eq_of_nodup_map hn hb ha (hfb.1.trans hid.symm) ▸ hfb.2

def AuthsRel (P : Auth → Auth → Prop) (l₁ l₂ : List Auth) : Prop :=
  (∀ a ∈ l₁, ∃ b ∈ l₂, b.id = a.id ∧ P a b) ∧ (∀ b ∈ l₂, ∃ a ∈ l₁, b.id = a.id ∧ P a b)

theorem AuthsRel.imp {P Q : Auth → Auth → Prop} {l₁ l₂ : List Auth} (h : AuthsRel P l₁ l₂)
    (hi : ∀ a ∈ l₁, ∀ b ∈ l₂, P a b → Q a b) : AuthsRel Q l₁ l₂ :=
  ⟨fun a ha => have ⟨b, hb, e, p⟩ := h.1 a ha; ⟨b, hb, e, hi a ha b hb p⟩,
   fun b hb => have ⟨a, ha, e, p⟩ := h.2 b hb; ⟨a, ha, e, hi a ha b hb p⟩⟩

/-- an `any` over the groups of two rooms: groups that correspond (same id, related by `P`) answer alike, and a group
    without a partner is one of those (`E`) that answer `false` -/
theorem any_of_matched {P : Auth → Auth → Prop} {E : Auth → Prop} {l₁ l₂ : List Auth}
    (h1 : ∀ a ∈ l₁, (∃ b ∈ l₂, b.id = a.id ∧ P a b) ∨ E a)
    (h2 : ∀ b ∈ l₂, (∃ a ∈ l₁, b.id = a.id ∧ P a b) ∨ E b)
    (f : Auth → Bool) (hf : ∀ a b, b.id = a.id → P a b → f a = f b) (he : ∀ a, E a → f a = false) :
    l₁.any f = l₂.any f := by
  rw [Bool.eq_iff_iff, List.any_eq_true, List.any_eq_true]
  constructor
  · rintro ⟨a, ha, hfa⟩
    rcases h1 a ha with ⟨b, hb, hid, hp⟩ | hem
    · exact ⟨b, hb, by rw [← hf a b hid hp]; exact hfa⟩
    · rw [he a hem] at hfa; cases hfa
  · rintro ⟨b, hb, hfb⟩
    rcases h2 b hb with ⟨a, ha, hid, hp⟩ | hem
    · exact ⟨a, ha, by rw [hf a b hid hp]; exact hfb⟩
    · rw [he b hem] at hfb; cases hfb

theorem any_of_authsRel {P : Auth → Auth → Prop} {l₁ l₂ : List Auth} (h : AuthsRel P l₁ l₂)
    (f : Auth → Bool) (hf : ∀ a b, P a b → f a = f b) : l₁.any f = l₂.any f :=
  any_of_matched (E := fun _ => False) (fun a ha => Or.inl (h.1 a ha)) (fun b hb => Or.inl (h.2 b hb)) f
    (fun a b _ => hf a b) fun _ => False.elim

theorem Room.sameAt_of_authsRel {r s : Room} {d : Int}
    (hn : (s.auths.map (·.id)).Nodup)
    (hadm : ∀ k, enabledAt r.admins k d = enabledAt s.admins k d)
    (hg : AuthsRel (fun a b => a.SameAt b d) r.auths s.auths) : r.SameAt s d := by
  refine ⟨hadm, ?_, ?_, ?_⟩
  · intro k
    simp only [Room.isUserValidAt, hadm k]
    rw [any_of_authsRel hg (fun a => a.isUserValidAt k d) (fun a b h => h.valid k)]
  · intro gid k
    simp only [Room.canAdminUsers]
    cases h1 : r.getAuth gid with
    | none =>
      cases h2 : s.getAuth gid with
      | none => rfl
      | some b =>
        obtain ⟨hb, hid⟩ := getAuth_some h2
        obtain ⟨a, ha, hab, _⟩ := hg.2 b hb
        exact absurd (hab.symm.trans hid) (getAuth_none h1 a ha)
    | some a =>
      obtain ⟨ha, hid⟩ := getAuth_some h1
      obtain ⟨b, hb, hab, hp⟩ := hg.1 a ha
      have : s.getAuth gid = some b := by rw [← hid, ← hab]; exact getAuth_of_mem hn hb
      simp only [this]
      exact hp.userAdmin k
  · intro k e rt
    simp only [Room.can, Room.isAdmin, hadm k]
    exact any_of_authsRel hg _ (fun a b h => by simp only [h.valid k, h.can e rt])

theorem getAuth_setAuth (r : Room) (b : Auth) (gid : Id) :
    (r.setAuth b).getAuth gid = (r.getAuth gid).map fun x => if x.id = b.id then b else x :=
  find_key_replace Auth.id r.auths b gid

theorem Room.setAuth_sameAt {r : Room} (hn : (r.auths.map (·.id)).Nodup) {a b : Auth}
    (ha : r.getAuth a.id = some a) (hb : b.id = a.id) {d : Int} (h : b.SameAt a d) :
    (r.setAuth b).SameAt r d := by
  -- the groups correspond one to one: `b` to `a` (the only group with that id), every other group to itself
  have hrel : ∀ y ∈ r.auths,
      y.id = (if y.id = b.id then b else y).id ∧ (if y.id = b.id then b else y).SameAt y d := by
    intro y hy
    split
    · rename_i e
      have hya : y = a := Option.some.inj ((getAuth_of_mem hn hy).symm.trans (by rw [e, hb]; exact ha))
      exact hya ▸ ⟨hb.symm, h⟩
    · exact ⟨rfl, Auth.SameAt.refl y d⟩
  refine Room.sameAt_of_authsRel hn (fun _ => rfl) ⟨fun x hx => ?_, fun y hy => ?_⟩
  · obtain ⟨y, hy, rfl⟩ := List.mem_map.mp (show x ∈ r.auths.map _ from hx)
    exact ⟨y, hy, hrel y hy⟩
  · exact ⟨_, List.mem_map.mpr ⟨y, hy, rfl⟩, hrel y hy⟩

theorem Room.addAuth_sameAt {r r' : Room} {a : Auth} (h : r.addAuth a = .ok r') {d : Int}
    (hv : ∀ k, a.isUserValidAt k d = false) (hu : ∀ k, a.canAdminUsers k d = false)
    (hc : ∀ e rt, a.can e d rt = false) : r'.SameAt r d := by
  obtain ⟨-, rfl⟩ := Room.addAuth_ok h
  refine ⟨fun _ => rfl, fun k => ?_, fun gid k => ?_, fun k e rt => ?_⟩
  · simp only [Room.isUserValidAt, List.any_append, List.any_cons, List.any_nil, hv k, Bool.or_false]
  · simp only [Room.canAdminUsers, Room.getAuth, List.find?_append]
    cases List.find? (fun x => decide (x.id = gid)) r.auths with
    | some x => rfl
    | none =>
      -- the new group is found only when no older one has the id, and then it answers `false` as `none` does
      by_cases hg : a.id = gid
      · rw [Option.none_or, find_key_cons_eq Auth.id [] hg]; exact hu k
      · rw [Option.none_or, find_key_cons_ne Auth.id [] hg]; rfl
  · simp only [Room.can, List.any_append, List.any_cons, List.any_nil, hc e rt, Bool.and_false, Bool.or_false]
    rfl

theorem Room.addAdmin_sameAt_past {r r' : Room} {u : User} (h : r.addAdmin u = .ok r') {d : Int}
    (hd : d < u.date) : r'.SameAt r d := by
  obtain ⟨l, hl, rfl⟩ := Room.addAdmin_ok h
  have hadm : ∀ k, enabledAt l k d = enabledAt r.admins k d := fun k => enabledAt_add_past hl k hd
  exact ⟨hadm, fun k => by simp only [Room.isUserValidAt, hadm k], fun _ _ => rfl,
    fun k e rt => by simp only [Room.can, Room.isAdmin, hadm k]⟩

/-- what the room lemmas use of "`a'` is `a` with one more entry, dated `t`" -/
def Auth.ExtendedAt (a a' : Auth) (t : Int) : Prop :=
  a'.id = a.id ∧ (a.WF → a'.WF) ∧ ∀ d, d < t → a'.SameAt a d

/-! Each of the three additions to a group changes one list: the decisions that read the other lists are the
same terms, those that read it are unchanged before the date of the entry. -/

theorem Auth.addUser_extendedAt {a a' : Auth} {u : User} (h : a.addUser u = .ok a') : a.ExtendedAt a' u.date := by
  obtain ⟨l, hl, rfl⟩ := Auth.addUser_ok h
  exact ⟨rfl, (Auth.addUser_wf · h), fun d hd =>
    Auth.sameAt_of_lists (fun k => enabledAt_add_past hl k hd) (fun _ => rfl) (fun _ _ => rfl)⟩

theorem Auth.addUserAdmin_extendedAt {a a' : Auth} {u : User} (h : a.addUserAdmin u = .ok a') :
    a.ExtendedAt a' u.date := by
  obtain ⟨l, hl, rfl⟩ := Auth.addUserAdmin_ok h
  exact ⟨rfl, (Auth.addUserAdmin_wf · h), fun d hd =>
    Auth.sameAt_of_lists (fun _ => rfl) (fun k => enabledAt_add_past hl k hd) (fun _ _ => rfl)⟩

theorem Auth.addRight_extendedAt {a a' : Auth} {x : Right} (h : a.addRight x = .ok a') :
    a.ExtendedAt a' x.validFrom := by
  obtain ⟨l, hl, rfl⟩ := Auth.addRight_ok h
  exact ⟨rfl, (Auth.addRight_wf · h), fun d hd =>
    Auth.sameAt_of_lists (fun _ => rfl) (fun _ => rfl)
      (fun e rt => by simp only [rightsCan, rightAt_add_past hl _ hd])⟩

/-- the group step shared by the three group entries of `addEntry?` -/
theorem Room.groupStep_some {r r' : Room} {gid : Id} {f : Auth → Except Err Auth} {t : Int}
    (hf : ∀ {a a'}, f a = .ok a' → a.ExtendedAt a' t)
    (h : (match r.getAuth gid with
      | none => none
      | some a =>
        match f a with
        | .ok a' => some (r.setAuth a')
        | .error _ => none) = some r') :
    ∃ a a', r.getAuth a.id = some a ∧ r' = r.setAuth a' ∧ a.ExtendedAt a' t := by
  split at h
  · cases h
  · rename_i a ha
    split at h
    · rename_i a' ha'; cases h; exact ⟨a, a', (getAuth_some ha).2 ▸ ha, rfl, hf ha'⟩
    · cases h

theorem Room.addEntry?_cases {r r' : Room} {e : Entry} (h : r.addEntry? e = some r') :
    (∃ u, e = .admin u ∧ r.addAdmin u = .ok r') ∨
    ∃ a a', r.getAuth a.id = some a ∧ r' = r.setAuth a' ∧ a.ExtendedAt a' e.date := by
  cases e with
  | admin u =>
    left
    simp only [Room.addEntry?] at h
    split at h
    · cases h; exact ⟨u, rfl, ‹_›⟩
    · cases h
  | user gid u => exact Or.inr (Room.groupStep_some (f := (·.addUser u)) Auth.addUser_extendedAt h)
  | userAdmin gid u => exact Or.inr (Room.groupStep_some (f := (·.addUserAdmin u)) Auth.addUserAdmin_extendedAt h)
  | right gid x => exact Or.inr (Room.groupStep_some (f := (·.addRight x)) Auth.addRight_extendedAt h)

/-- C10 (claimed by the check's level text): the per-key date order is kept by every successful add -/
theorem Room.addEntry?_wf {r r' : Room} {e : Entry} (hw : r.WF) (h : r.addEntry? e = some r') : r'.WF := by
  rcases Room.addEntry?_cases h with ⟨u, _, hu⟩ | ⟨a, a', ha, rfl, _, hwa, _⟩
  · exact Room.addAdmin_wf hw hu
  · exact Room.setAuth_wf hw (hwa (hw.auths a (getAuth_some ha).1))

/-- C10 (claimed by the check's level text), past stability: a successful add changes no decision at a date before
    the entry's. It is what "the right *at that time*" means in C01 C02 C07 C12, and why two peers holding different
    prefixes of a room history agree on every date both cover -/
theorem Room.past_stability {r r' : Room} {e : Entry} (hw : r.WF) (h : r.addEntry? e = some r')
    {d : Int} (hd : d < e.date) : r'.SameAt r d := by
  rcases Room.addEntry?_cases h with ⟨u, rfl, hu⟩ | ⟨a, a', ha, rfl, hid, _, hsame⟩
  · exact Room.addAdmin_sameAt_past hu hd
  · exact Room.setAuth_sameAt hw.ids ha hid (hsame d hd)

def UserEquiv (l₁ l₂ : List User) : Prop := ∀ k, l₁.filter (·.key = k) = l₂.filter (·.key = k)
def RightEquiv (l₁ l₂ : List Right) : Prop := ∀ e, l₁.filter (·.entity = e) = l₂.filter (·.entity = e)

theorem Auth.sameAt_of_equiv {a b : Auth} (hu : UserEquiv a.users b.users)
    (ha : UserEquiv a.userAdmins b.userAdmins) (hr : RightEquiv a.rights b.rights) (d : Int) :
    a.SameAt b d :=
  Auth.sameAt_of_lists (fun k => enabledAt_congr (hu k) d) (fun k => enabledAt_congr (ha k) d)
    (fun e rt => rightsCan_congr hr e d rt)

structure Auth.SameUpTo (a b : Auth) (d : Int) : Prop where
  users : Room.SameUpTo User.date a.users b.users d
  userAdmins : Room.SameUpTo User.date a.userAdmins b.userAdmins d
  rights : Room.SameUpTo Right.validFrom a.rights b.rights d

structure Auth.EmptyAt (a : Auth) (d : Int) : Prop where
  users : ∀ u ∈ a.users, d < u.date
  userAdmins : ∀ u ∈ a.userAdmins, d < u.date
  rights : ∀ x ∈ a.rights, d < x.validFrom

theorem Auth.EmptyAt.valid {a : Auth} {d : Int} (h : a.EmptyAt d) (k : Key) : a.isUserValidAt k d = false := by
  simp [Auth.isUserValidAt, enabledAt_none_before h.users, enabledAt_none_before h.userAdmins]
theorem Auth.EmptyAt.userAdmin {a : Auth} {d : Int} (h : a.EmptyAt d) (k : Key) : a.canAdminUsers k d = false := by
  simp [Auth.canAdminUsers, enabledAt_none_before h.userAdmins]
theorem Auth.EmptyAt.can {a : Auth} {d : Int} (h : a.EmptyAt d) (e : Ent) (rt : RightType) : a.can e d rt = false := by
  rw [Auth.can_eq]; exact rightsCan_none_before h.rights e rt

theorem Auth.sameAt_upTo {a b : Auth} {d : Int} (wa : a.WF) (wb : b.WF) (h : a.SameUpTo b d)
    (fu : UserFunc a.users) (fa : UserFunc a.userAdmins) (fr : RightFunc a.rights) : a.SameAt b d :=
  Auth.sameAt_of_lists (enabledAt_upTo h.users wa.users wb.users fu)
    (enabledAt_upTo h.userAdmins wa.userAdmins wb.userAdmins fa) (rightsCan_upTo h.rights wa.rights wb.rights fr)

theorem Auth.sameAt_of_perm {a b : Auth} (wa : a.WF) (wb : b.WF)
    (hu : a.users.Perm b.users) (ha : a.userAdmins.Perm b.userAdmins) (hr : a.rights.Perm b.rights)
    (fu : UserFunc a.users) (fa : UserFunc a.userAdmins) (fr : RightFunc a.rights) (d : Int) :
    a.SameAt b d :=
  Auth.sameAt_upTo wa wb ⟨fun _ _ => hu.mem_iff, fun _ _ => ha.mem_iff, fun _ _ => hr.mem_iff⟩ fu fa fr

/-- C10 (claimed by the check's level text): the decisions depend on the per-key subsequences of the lists only -/
theorem Room.decisions_congr {r s : Room} (hn1 : (r.auths.map (·.id)).Nodup)
    (hn2 : (s.auths.map (·.id)).Nodup) (hadm : UserEquiv r.admins s.admins)
    (hg : AuthsRel (fun a b => UserEquiv a.users b.users ∧ UserEquiv a.userAdmins b.userAdmins ∧
      RightEquiv a.rights b.rights) r.auths s.auths) (d : Int) : r.SameAt s d :=
  Room.sameAt_of_authsRel hn2 (fun k => enabledAt_congr (hadm k) d)
    (hg.imp fun _ _ _ _ ⟨h1, h2, h3⟩ => Auth.sameAt_of_equiv h1 h2 h3 d)

structure Room.Func (r : Room) : Prop where
  admins : UserFunc r.admins
  auths : ∀ a ∈ r.auths, UserFunc a.users ∧ UserFunc a.userAdmins ∧ RightFunc a.rights

/-- decisions at `d` are a function of the SET of entries dated up to `d`: the order in the lists does not matter
    provided that, in the first room, entries with equal key and equal date carry the same payload (`Room.Func`). -/
theorem Room.sameAt_of_sameUpTo {r s : Room} {d : Int} (wr : r.WF) (ws : s.WF) (fr : r.Func)
    (hadm : Room.SameUpTo User.date r.admins s.admins d)
    (h1 : ∀ a ∈ r.auths, (∃ b ∈ s.auths, b.id = a.id ∧ a.SameUpTo b d) ∨ a.EmptyAt d)
    (h2 : ∀ b ∈ s.auths, (∃ a ∈ r.auths, b.id = a.id ∧ a.SameUpTo b d) ∨ b.EmptyAt d) :
    r.SameAt s d := by
  have hadm' : ∀ k, enabledAt r.admins k d = enabledAt s.admins k d :=
    fun k => enabledAt_upTo hadm wr.admins ws.admins fr.admins k
  have same : ∀ a ∈ r.auths, ∀ b ∈ s.auths, a.SameUpTo b d → a.SameAt b d := by
    intro a ha b hb h
    obtain ⟨f1, f2, f3⟩ := fr.auths a ha
    exact Auth.sameAt_upTo (wr.auths a ha) (ws.auths b hb) h f1 f2 f3
  -- every decision is an `any` over the groups: groups that correspond answer alike, the others answer `false`
  have anyEq : ∀ (f : Auth → Bool), (∀ a b, b.id = a.id → a.SameAt b d → f a = f b) →
      (∀ a, a.EmptyAt d → f a = false) → r.auths.any f = s.auths.any f :=
    any_of_matched
      (fun a ha => (h1 a ha).imp_left fun ⟨b, hb, hid, hs⟩ => ⟨b, hb, hid, same a ha b hb hs⟩)
      (fun b hb => (h2 b hb).imp_left fun ⟨a, ha, hid, hs⟩ => ⟨a, ha, hid, same a ha b hb hs⟩)
  refine ⟨hadm', fun k => ?_, fun gid k => ?_, fun k e rt => ?_⟩
  · simp only [Room.isUserValidAt, hadm' k]
    rw [anyEq (fun a => a.isUserValidAt k d) (fun a b _ h => h.valid k) (fun a h => h.valid k)]
  · rw [Room.canAdminUsers_eq_any wr.ids, Room.canAdminUsers_eq_any ws.ids]
    exact anyEq _ (fun a b hid h => by rw [hid, h.userAdmin k]) (fun a h => by rw [h.userAdmin k, Bool.and_false])
  · simp only [Room.can, Room.isAdmin, hadm' k]
    exact anyEq _ (fun a b _ h => by simp only [h.valid k, h.can e rt]) (fun a h => by simp [h.can e rt])

theorem Room.sameAt_of_perm {r s : Room} (wr : r.WF) (ws : s.WF) (fr : r.Func)
    (hadm : r.admins.Perm s.admins)
    (hg : AuthsRel (fun a b => a.users.Perm b.users ∧ a.userAdmins.Perm b.userAdmins ∧
      a.rights.Perm b.rights) r.auths s.auths) (d : Int) : r.SameAt s d :=
  Room.sameAt_of_authsRel ws.ids (fun k => enabledAt_upTo (fun _ _ => hadm.mem_iff) wr.admins ws.admins fr.admins k)
    (hg.imp fun a ha b hb ⟨h1, h2, h3⟩ =>
      have ⟨f1, f2, f3⟩ := fr.auths a ha
      Auth.sameAt_of_perm (wr.auths a ha) (ws.auths b hb) h1 h2 h3 f1 f2 f3 d)

end Discret.Room
