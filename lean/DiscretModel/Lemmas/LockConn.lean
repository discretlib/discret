import DiscretModel.Lemmas.Lock
import DiscretModel.Model.LockConn
/-
Connection-level invariant for the code as fixed (`Defects.none`): every locked room has exactly one
owner — a grant waiting in a connection's inbox or a task that has not yet sent its `Unlock`.
-/
namespace Discret.LockConn
open Discret.Lock

/-- the rooms a connection is responsible for releasing: grants not yet received, tasks that have
    not yet sent `Unlock` -/
def active (c : Conn) : List Room :=
  c.inbox ++ (c.tasks.filter fun t => t.2 < 2).map Prod.fst

def taskRooms (t : List (Room × Nat)) : List Room := (t.filter fun x => x.2 < 2).map Prod.fst

theorem active_eq (c : Conn) : active c = c.inbox ++ taskRooms c.tasks := rfl

theorem mem_active_of_task {c : Conn} {r : Room} {ph : Nat} (ht : (r, ph) ∈ c.tasks) (hph : ph < 2) :
    r ∈ active c :=
  List.mem_append_right _ (List.mem_map.mpr ⟨(r, ph), List.mem_filter.mpr ⟨ht, decide_eq_true hph⟩, rfl⟩)

def gained (c : Conn) (gs : List (Ch × Room)) : List Room :=
  (gs.filter fun g => c.ch = g.1 && !c.closed).map Prod.snd

def receive (c : Conn) (gs : List (Ch × Room)) : Conn := { c with inbox := c.inbox ++ gained c gs }

theorem receive_nil (c : Conn) : receive c [] = c := by
  show { c with inbox := c.inbox ++ [] } = c
  rw [List.append_nil]

theorem receive_cons (c : Conn) (g : Ch × Room) (gs : List (Ch × Room)) :
    receive (if c.ch = g.1 && !c.closed then { c with inbox := c.inbox ++ [g.2] } else c) gs =
      receive c (g :: gs) := by
  unfold receive gained
  rw [List.filter_cons]
  split
  · rw [List.map_cons, List.append_assoc]; rfl
  · rfl

theorem deliver_eq_map (conns : List Conn) (gs : List (Ch × Room)) :
    deliver conns gs = conns.map (receive · gs) := by
  induction gs generalizing conns with
  | nil => exact ((List.map_congr_left fun c _ => receive_nil c).trans (List.map_id _)).symm
  | cons g gs ih =>
    show deliver (deliverOne conns g) gs = _
    rw [ih, deliverOne, List.map_map]
    exact List.map_congr_left fun c _ => receive_cons c g gs

theorem deliver_length (conns : List Conn) (gs : List (Ch × Room)) :
    (deliver conns gs).length = conns.length := by
  rw [deliver_eq_map, List.length_map]

theorem mem_gained {c : Conn} {gs : List (Ch × Room)} {r : Room} :
    r ∈ gained c gs ↔ (c.ch, r) ∈ gs ∧ c.closed = false := by
  simp only [gained, List.mem_map, List.mem_filter, Bool.and_eq_true, decide_eq_true_eq,
    Bool.not_eq_eq_eq_not, Bool.not_true, Prod.exists, exists_eq_right]
  constructor
  · rintro ⟨a, ⟨h1, h2, h3⟩⟩; subst h2; exact ⟨h1, h3⟩
  · rintro ⟨h1, h2⟩; exact ⟨c.ch, h1, rfl, h2⟩

theorem gained_closed {c : Conn} {gs : List (Ch × Room)} (h : c.closed = true) : gained c gs = [] := by
  simp [gained, h]

theorem gained_nodup {c : Conn} {gs : List (Ch × Room)} (h : (gs.map Prod.snd).Nodup) :
    (gained c gs).Nodup :=
  h.sublist (List.filter_sublist.map _)

theorem active_receive_perm (c : Conn) (gs : List (Ch × Room)) :
    (active (receive c gs)).Perm (gained c gs ++ active c) := by
  simp only [active, receive]
  rw [List.append_assoc]
  exact List.perm_append_comm_assoc _ _ _

theorem mem_active_receive {c : Conn} {gs : List (Ch × Room)} {r : Room} :
    r ∈ active (receive c gs) ↔ r ∈ gained c gs ∨ r ∈ active c :=
  (active_receive_perm c gs).mem_iff.trans List.mem_append

theorem svcStep_conn {s : Sys} {op : Op} {i : Nat} {c' : Conn} :
    (svcStep s op).1.conns[i]? = some c' ↔
      ∃ c, s.conns[i]? = some c ∧ receive c (step s.svc op).2 = c' := by
  show (deliver _ _)[i]? = _ ↔ _
  rw [deliver_eq_map, List.getElem?_map]
  exact Option.map_eq_some_iff

/-! `free` lists rooms that are still locked in the service but whose owner has already given them up
and is about to send `Unlock` (the intermediate states inside `task` and `close`). -/

/-- connection `i` as the service sees it: its channel is its own, the rooms it is responsible for are pairwise
    distinct, locked and not being given up, and once closed it has no inbox and its receiver is gone -/
structure ConnOk (svc : State) (free : List Room) (i : Nat) (c : Conn) : Prop where
  ch : c.ch = connCh i
  nodup : (active c).Nodup
  locked : ∀ r ∈ active c, r ∈ svc.locked ∧ r ∉ free
  closed : c.closed = true → c.inbox = [] ∧ c.ch ∈ svc.dead

/-- the invariant of the composed system: the service invariant, every connection `ConnOk`, no room under two
    connections (`disj`), every locked room under a connection or in `free` (`owned`), and only channels of
    modelled connections in the pending map (`reqCh`) -/
structure J (max : Nat) (s : Sys) (free : List Room) : Prop where
  inv : Inv max s.svc
  conn : ∀ (i : Nat) (c : Conn), s.conns[i]? = some c → ConnOk s.svc free i c
  disj : ∀ (i j : Nat) (ci cj : Conn) (r : Room), s.conns[i]? = some ci → s.conns[j]? = some cj →
    r ∈ active ci → r ∈ active cj → i = j
  owned : ∀ r ∈ s.svc.locked, r ∈ free ∨ ∃ (i : Nat) (c : Conn), s.conns[i]? = some c ∧ r ∈ active c
  freeLocked : ∀ r ∈ free, r ∈ s.svc.locked
  reqCh : ∀ p req, (p, req) ∈ s.svc.reqs → ∃ i, i < s.conns.length ∧ req.ch = connCh i

theorem J_init (max : Nat) : J max (sinit max) [] := by
  have h0 : ∀ (i : Nat) (c : Conn), (sinit max).conns[i]? ≠ some c := by simp [sinit]
  exact ⟨inv_init max, fun i c h => absurd h (h0 i c), fun i _ ci _ _ h => absurd h (h0 i ci),
    fun _ h => (List.not_mem_nil h).elim, fun _ h => (List.not_mem_nil h).elim,
    fun _ _ h => (List.not_mem_nil h).elim⟩

theorem connCh_inj {i j : Nat} (h : connCh i = connCh j) : i = j := Nat.add_left_cancel h

theorem svcStep_J {max : Nat} {s : Sys} {free free' : List Room} (hj : J max s free) (op : Op)
    (hfree : ∀ r, r ∈ free' ↔ r ∈ free ∧ op ≠ .unlock r)
    (hreq : ∀ p rooms ch, op = .request p rooms ch → ∃ i, i < s.conns.length ∧ ch = connCh i)
    (hunl : ∀ r, op = .unlock r → r ∈ free) :
    J max (svcStep s op).1 free' := by
  obtain ⟨hgn, hgr⟩ := step_grants hj.inv op
  have hunowned : ∀ g ∈ (step s.svc op).2, ∀ (i : Nat) (c : Conn), s.conns[i]? = some c → g.2 ∉ active c := by
    intro g hg i c hc hm
    obtain ⟨hl, hnf⟩ := (hj.conn i c hc).locked g.2 hm
    exact (hgr g hg).1.elim (fun e => e hl) fun e => hnf (hunl g.2 e)
  have hnotfree : ∀ g ∈ (step s.svc op).2, g.2 ∉ free' := by
    intro g hg hf
    obtain ⟨f1, f2⟩ := (hfree g.2).mp hf
    exact (hgr g hg).1.elim (fun e => e (hj.freeLocked g.2 f1)) f2
  have hvalid : ∀ x, ((∃ p req, (p, req) ∈ s.svc.reqs ∧ req.ch = x) ∨ ∃ p rooms, op = .request p rooms x) →
      ∃ i, i < s.conns.length ∧ x = connCh i := by
    rintro x (⟨p, req, hm, hc⟩ | ⟨p, rooms, e⟩)
    · obtain ⟨i, hi, hch⟩ := hj.reqCh p req hm
      exact ⟨i, hi, hc ▸ hch⟩
    · exact hreq p rooms x e
  have hreach : ∀ g ∈ (step s.svc op).2, ∃ (i : Nat) (c : Conn), s.conns[i]? = some c ∧ c.ch = g.1 ∧ c.closed = false := by
    intro g hg
    have hnd : g.1 ∉ s.svc.dead := (hgr g hg).2.2
    obtain ⟨i, hi, hch⟩ := hvalid g.1 (step_grant_ch hj.inv op g hg)
    have hc : s.conns[i]? = some s.conns[i] := List.getElem?_eq_getElem hi
    have ok := hj.conn i _ hc
    refine ⟨i, _, hc, ok.ch.trans hch.symm, Bool.eq_false_iff.mpr fun hcl => hnd ?_⟩
    rw [hch, ← ok.ch]; exact (ok.closed hcl).2
  refine ⟨step_inv hj.inv op, ?_, ?_, ?_, ?_, ?_⟩
  · intro i c' hc'
    obtain ⟨c, hc, rfl⟩ := svcStep_conn.mp hc'
    have ok := hj.conn i c hc
    refine ⟨ok.ch, ?_, fun r hr => ?_, fun hcl => ?_⟩
    · refine (active_receive_perm c _).nodup_iff.mpr (List.nodup_append.mpr ⟨gained_nodup hgn, ok.nodup, ?_⟩)
      rintro a ha _ hb rfl
      exact hunowned (c.ch, a) (mem_gained.mp ha).1 i c hc hb
    · rcases mem_active_receive.mp hr with a | a
      · exact ⟨(hgr (c.ch, r) (mem_gained.mp a).1).2.1, hnotfree (c.ch, r) (mem_gained.mp a).1⟩
      · obtain ⟨hl, hnf⟩ := ok.locked r a
        exact ⟨step_locked_stays hj.inv op hl fun e => hnf (hunl r e), fun hf => hnf ((hfree r).mp hf).1⟩
    · obtain ⟨e1, e2⟩ := ok.closed hcl
      exact ⟨by show c.inbox ++ gained c _ = []; rw [e1, gained_closed (c := c) hcl]; rfl,
        step_dead_mono hj.inv op _ e2⟩
  · intro i j ci' cj' r hci' hcj' hri hrj
    obtain ⟨ci, hci, rfl⟩ := svcStep_conn.mp hci'
    obtain ⟨cj, hcj, rfl⟩ := svcStep_conn.mp hcj'
    rcases mem_active_receive.mp hri with a1 | a1 <;> rcases mem_active_receive.mp hrj with a2 | a2
    · -- one step grants a room once, so both received it on the same channel
      have : ci.ch = cj.ch :=
        congrArg Prod.fst (eq_of_nodup_map hgn (mem_gained.mp a1).1 (mem_gained.mp a2).1 rfl)
      rw [(hj.conn i ci hci).ch, (hj.conn j cj hcj).ch] at this
      exact connCh_inj this
    · exact absurd a2 (hunowned (ci.ch, r) (mem_gained.mp a1).1 j cj hcj)
    · exact absurd a1 (hunowned (cj.ch, r) (mem_gained.mp a2).1 i ci hci)
    · exact hj.disj i j ci cj r hci hcj a1 a2
  · intro r hr
    rcases (mem_step_locked hj.inv op).mp hr with ⟨hl, hne⟩ | ⟨ch, hg⟩
    · rcases hj.owned r hl with hf | ⟨i, c, hc, hm⟩
      · exact .inl ((hfree r).mpr ⟨hf, hne⟩)
      · exact .inr ⟨i, _, svcStep_conn.mpr ⟨c, hc, rfl⟩, mem_active_receive.mpr (.inr hm)⟩
    · obtain ⟨i, c, hc, hch, hcl⟩ := hreach (ch, r) hg
      exact .inr ⟨i, _, svcStep_conn.mpr ⟨c, hc, rfl⟩, mem_active_receive.mpr (.inl (mem_gained.mpr ⟨hch ▸ hg, hcl⟩))⟩
  · intro r hr
    exact step_locked_stays hj.inv op (hj.freeLocked r ((hfree r).mp hr).1) ((hfree r).mp hr).2
  · intro p req' hm
    rw [show (svcStep s op).1.conns.length = s.conns.length from deliver_length _ _]
    exact hvalid req'.ch (step_reqs_ch hj.inv op p req' hm)

theorem svcStep_J_other {max : Nat} {s : Sys} (hj : J max s []) (op : Op) (hop : ∀ r, op ≠ .unlock r)
    (hreq : ∀ p rooms ch, op = .request p rooms ch → ∃ i, i < s.conns.length ∧ ch = connCh i) :
    J max (svcStep s op).1 [] :=
  svcStep_J hj op (fun _ => ⟨nofun, fun h => nomatch h.1⟩) hreq fun r e => absurd e (hop r)

theorem svcStep_J_unlock {max : Nat} {s : Sys} {r : Room} {free : List Room} (hj : J max s (r :: free))
    (hr : r ∉ free) : J max (svcStep s (.unlock r)).1 free :=
  svcStep_J hj (.unlock r)
    (fun _ => ⟨fun hx => ⟨List.mem_cons_of_mem _ hx, fun e => hr (Op.unlock.inj e ▸ hx)⟩,
      fun ⟨hx, hne⟩ => (List.mem_cons.mp hx).resolve_left fun e => hne (e ▸ rfl)⟩)
    (fun _ _ _ e => nomatch e) fun _ e => Op.unlock.inj e ▸ List.mem_cons_self

theorem setConn_get {s : Sys} {i : Nat} {c c' : Conn} (hc : s.conns[i]? = some c) (j : Nat) :
    (setConn s i c').conns[j]? = if i = j then some c' else s.conns[j]? := by
  have hi : i < s.conns.length := (List.getElem?_eq_some_iff.mp hc).1
  simp only [setConn, List.getElem?_set, hi, ↓reduceIte]

theorem setConn_J {max : Nat} {s : Sys} {rel : List Room} {i : Nat} {c c' : Conn}
    (hj : J max s []) (hc : s.conns[i]? = some c)
    (hch : c'.ch = c.ch)
    (hcl : c'.closed = true → c'.inbox = [] ∧ c'.ch ∈ s.svc.dead)
    (hperm : (active c).Perm (rel ++ active c')) :
    J max (setConn s i c') rel := by
  have hget := setConn_get (c' := c') hc
  have ok := hj.conn i c hc
  have hnd := List.nodup_append.mp (hperm.nodup_iff.mp ok.nodup)
  have hrel : ∀ r ∈ rel, r ∈ active c := fun r hr => hperm.mem_iff.mpr (List.mem_append_left _ hr)
  have hsub : ∀ r ∈ active c', r ∈ active c := fun r hr => hperm.mem_iff.mpr (List.mem_append_right _ hr)
  have hold : ∀ {j : Nat} {cj' : Conn}, (setConn s i c').conns[j]? = some cj' →
      (j = i ∧ cj' = c') ∨ (j ≠ i ∧ s.conns[j]? = some cj') := by
    intro j cj' h
    rw [hget] at h
    split at h
    · next e => exact .inl ⟨e.symm, (Option.some.inj h).symm⟩
    · next e => exact .inr ⟨fun e' => e e'.symm, h⟩
  have hold' : ∀ {j : Nat} {cj' : Conn}, (setConn s i c').conns[j]? = some cj' →
      ∃ cj, s.conns[j]? = some cj ∧ ∀ r ∈ active cj', r ∈ active cj := by
    intro j cj' h
    rcases hold h with ⟨rfl, rfl⟩ | ⟨_, h⟩
    · exact ⟨c, hc, hsub⟩
    · exact ⟨cj', h, fun _ hr => hr⟩
  refine ⟨hj.inv, ?_, ?_, ?_, fun r hr => (ok.locked r (hrel r hr)).1, ?_⟩
  · intro j cj' h
    rcases hold h with ⟨rfl, rfl⟩ | ⟨hne, h⟩
    · exact ⟨hch ▸ ok.ch, hnd.2.1,
        fun r hr => ⟨(ok.locked r (hsub r hr)).1, fun hr' => hnd.2.2 r hr' r hr rfl⟩, hcl⟩
    · have okj := hj.conn j cj' h
      exact ⟨okj.ch, okj.nodup,
        fun r hr => ⟨(okj.locked r hr).1, fun hr' => hne (hj.disj j i cj' c r h hc hr (hrel r hr'))⟩,
        okj.closed⟩
  · intro j k cj' ck' r h1 h2 hr1 hr2
    obtain ⟨cj, hcj, s1⟩ := hold' h1
    obtain ⟨ck, hck, s2⟩ := hold' h2
    exact hj.disj j k cj ck r hcj hck (s1 r hr1) (s2 r hr2)
  · intro r hr
    obtain ⟨j, cj, hcj, hm⟩ := (hj.owned r hr).resolve_left (fun h => nomatch h)
    by_cases e : j = i
    · subst e
      cases hc.symm.trans hcj
      exact (List.mem_append.mp (hperm.mem_iff.mp hm)).imp_right fun h =>
        ⟨j, c', by rw [hget, if_pos rfl], h⟩
    · exact .inr ⟨j, cj, by rw [hget, if_neg (Ne.symm e)]; exact hcj, hm⟩
  · intro p req hm
    obtain ⟨k, hk, hch'⟩ := hj.reqCh p req hm
    exact ⟨k, (List.length_set ..).symm ▸ hk, hch'⟩

theorem taskRooms_cons (x : Room × Nat) (t : List (Room × Nat)) :
    taskRooms (x :: t) = (if x.2 < 2 then [x.1] else []) ++ taskRooms t := by
  by_cases h : x.2 < 2 <;> simp [taskRooms, h]

theorem taskRooms_append (a b : List (Room × Nat)) : taskRooms (a ++ b) = taskRooms a ++ taskRooms b := by
  simp [taskRooms]

/-- what advancing a task does to the rooms its connection is responsible for: nothing, except
    that a task leaving phase 1 (it sends `Unlock`) gives its room up -/
theorem advance_taskRooms {k : Nat} {t : List (Room × Nat)} {r : Room} {ph : Nat}
    (h : (advance k t).2 = some (r, ph)) :
    (taskRooms t).Perm ((if ph = 1 then [r] else []) ++ taskRooms (advance k t).1) := by
  fun_induction advance k t with
  | case1 k => cases h
  | case2 r0 p0 t =>
    cases h
    show (taskRooms ((r, ph) :: t)).Perm (_ ++ taskRooms (if ph < 2 then (r, ph + 1) :: t else t))
    match ph with
    | 0 => exact .refl _
    | 1 => exact .refl _
    | ph + 2 => exact .refl _
  | case3 k x t res ih =>
    show (taskRooms (x :: t)).Perm (_ ++ taskRooms (x :: res.1))
    rw [taskRooms_cons, taskRooms_cons]
    exact ((ih h).append_left _).trans (List.perm_append_comm_assoc _ _ _)

theorem advance_none {k : Nat} {t : List (Room × Nat)} (h : (advance k t).2 = none) :
    (advance k t).1 = t := by
  induction t generalizing k with
  | nil => cases k <;> rfl
  | cons x rest ih =>
    cases k with
    | zero => obtain ⟨r0, p0⟩ := x; simp [advance] at h
    | succ k => simp only [advance] at h ⊢; rw [ih h]

theorem active_advance {c c' : Conn} {k : Nat} {r : Room} {ph : Nat}
    (h : (advance k c.tasks).2 = some (r, ph)) (hin : c'.inbox = c.inbox)
    (ht : c'.tasks = (advance k c.tasks).1) :
    (active c).Perm ((if ph = 1 then [r] else []) ++ active c') := by
  rw [active_eq, active_eq, hin, ht]
  exact ((advance_taskRooms h).append_left _).trans (List.perm_append_comm_assoc _ _ _)

theorem unlockAll_J {max : Nat} {s : Sys} {l : List Room} (hj : J max s l) (hn : l.Nodup) :
    J max (unlockAll s l).1 [] := by
  unfold unlockAll
  generalize ([] : List (Ch × Room)) = acc
  induction l generalizing s acc with
  | nil => exact hj
  | cons r rest ih =>
    exact ih (svcStep_J_unlock hj (List.nodup_cons.mp hn).1) (List.nodup_cons.mp hn).2 _

theorem close_J {max : Nat} {s : Sys} (hj : J max s []) {i : Nat} {c : Conn} (hc : s.conns[i]? = some c) :
    J max (unlockAll (setConn (svcStep s (.drop c.ch)).1 i { c with closed := true, inbox := [] })
      c.inbox).1 [] := by
  have hj2 : J max (svcStep s (.drop c.ch)).1 [] :=
    svcStep_J_other hj _ (fun _ => nofun) (fun _ _ _ => nofun)
  have hc2 : (svcStep s (.drop c.ch)).1.conns[i]? = some c := hc
  have hdead : c.ch ∈ (svcStep s (.drop c.ch)).1.svc.dead := List.mem_cons_self
  exact unlockAll_J (setConn_J (rel := c.inbox) hj2 hc2 rfl (fun _ => ⟨rfl, hdead⟩) (.of_eq rfl))
    (List.nodup_append.mp (hj.conn i c hc).nodup).1

def noRaw : SOp → Bool
  | .raw _ => false
  | _ => true

theorem getElem?_concat {α : Type} {l : List α} {x c : α} {j : Nat} (h : (l ++ [x])[j]? = some c) :
    l[j]? = some c ∨ (j = l.length ∧ c = x) := by
  rw [List.getElem?_append] at h
  split at h
  · exact .inl h
  · rw [List.getElem?_singleton] at h
    split at h
    · next hlt h0 =>
      cases h
      exact .inr ⟨Nat.le_antisymm (Nat.le_of_sub_eq_zero h0) (Nat.le_of_not_lt hlt), rfl⟩
    · cases h

theorem conn_J {max : Nat} {s : Sys} (hj : J max s []) {i : Nat} (hlen : s.conns.length = i) :
    J max { s with conns := s.conns ++
      [{ peer := i, ch := connCh i, inbox := [], acquired := [], tasks := [], closed := false }] } [] := by
  subst hlen
  refine ⟨hj.inv, ?_, ?_, ?_, hj.freeLocked, ?_⟩
  · intro j cj h
    rcases getElem?_concat h with h | ⟨rfl, rfl⟩
    · exact hj.conn j cj h
    · exact ⟨rfl, List.nodup_nil, fun _ h => (List.not_mem_nil h).elim, fun h => nomatch h⟩
  · intro j k cj ck r h1 h2 hr1 hr2
    rcases getElem?_concat h1 with h1 | ⟨_, rfl⟩
    · rcases getElem?_concat h2 with h2 | ⟨_, rfl⟩
      · exact hj.disj j k cj ck r h1 h2 hr1 hr2
      · cases hr2
    · cases hr1
  · intro r hr
    refine (hj.owned r hr).imp_right fun ⟨j, cj, hcj, hm⟩ => ⟨j, cj, ?_, hm⟩
    rw [List.getElem?_append_left (List.getElem?_eq_some_iff.mp hcj).1]; exact hcj
  · intro p req hm
    obtain ⟨k, hk, hch⟩ := hj.reqCh p req hm
    exact ⟨k, by rw [List.length_append]; exact Nat.lt_add_right _ hk, hch⟩

theorem sstep_J {max : Nat} {s : Sys} (hj : J max s []) (op : SOp) (hop : noRaw op = true) :
    J max (sstep Defects.none s op).1 [] := by
  cases op with
  | raw o => cases hop
  | conn i =>
    rw [sstep]
    split
    · next hlen => exact conn_J hj hlen
    · exact hj
  | request i rooms =>
    rw [sstep]
    split
    · next c hc =>
      split
      · exact hj
      · refine svcStep_J_other hj _ (fun _ => nofun) fun p rooms' ch e => ?_
        cases e
        exact ⟨i, (List.getElem?_eq_some_iff.mp hc).1, (hj.conn i c hc).ch⟩
    · exact hj
  | recv i =>
    rw [sstep]
    split
    · next c hc =>
      split
      · exact hj
      · next hcl =>
        split
        · exact hj
        · next r rest hin =>
          -- the grant moves from the inbox to a new task in phase 0
          refine setConn_J (rel := []) hj hc rfl (fun h => absurd h hcl) ?_
          rw [active_eq, active_eq, hin]
          show (r :: (rest ++ taskRooms c.tasks)).Perm (rest ++ taskRooms (c.tasks ++ [(r, 0)]))
          rw [taskRooms_append, ← List.append_assoc]
          exact (List.perm_append_singleton r _).symm
    · exact hj
  | task i k =>
    rw [sstep]
    split
    · next c hc =>
      have ok := hj.conn i c hc
      dsimp only
      split
      · next r hadv =>
        -- phase 0 -> 1: the room stays under this connection's responsibility
        exact setConn_J (rel := []) hj hc rfl ok.closed (active_advance hadv rfl rfl)
      · next r hadv =>
        -- phase 1 -> 2: the task gives the room up and sends Unlock
        exact svcStep_J_unlock
          (setConn_J (rel := [r]) hj hc rfl ok.closed (active_advance hadv rfl rfl)) (fun h => nomatch h)
      · next r ph _ hph hadv =>
        -- phase 2 -> gone: the task was not responsible for the room any more
        refine setConn_J (rel := []) hj hc rfl ok.closed ?_
        have := active_advance (c' := { c with tasks := (advance k c.tasks).1, acquired := c.acquired.erase r })
          hadv rfl rfl
        rwa [if_neg hph] at this
      · exact hj
    · exact hj
  | close i =>
    rw [sstep]
    simp only [Defects.none, Bool.false_eq_true, ↓reduceIte]
    split
    · next c hc =>
      split
      · exact hj
      · exact close_J hj hc
    · exact hj

theorem srun_J {max : Nat} {s : Sys} (hj : J max s []) (ops : List SOp) (hops : ops.all noRaw = true) :
    J max (srun Defects.none s ops) [] := by
  induction ops generalizing s with
  | nil => exact hj
  | cons op ops ih =>
    simp only [List.all_cons, Bool.and_eq_true] at hops
    exact ih (sstep_J hj op hops.1) hops.2

end Discret.LockConn
