import DiscretModel.Model.Handshake
import DiscretModel.Lemmas.Basic
/-
Lemmas for C19. Single use is a counting argument: an invitation that has one entry in the token table
(`countInvite`) has none once `removeFirst` (a `List.eraseP`) hits it under its own token, so no token reaches
it, and no later operation that avoids its id brings it back. Core Lean only.
-/
namespace Discret.Handshake

theorem inviteIdOf_allowed (k : Key) : inviteIdOf (.allowedPeer k) = none := rfl

theorem initialise_cases (localKey : Key) (tt : TokenType) (c : Chal) (reply : Option Proof) :
    (∃ r, r ≠ .ok true ∧ initialise localKey tt c reply = fail r) ∨
    ∃ p ready events msgs, reply = some p ∧
      initialise localKey tt c reply =
        { res := .ok true, bound := some p.key, connReady := ready, events := events, msgs := msgs } ∧
      p.rowValid = true ∧ sigValid p.key (chalMsg c) p.sig = true ∧ (∀ e, tt = .allowedPeer e → p.key = e) ∧
      (∀ inv, tt = .invite inv → sigValid p.key (inviteHash inv.id inv.app) inv.sign = true) := by
  cases reply with
  | none => exact .inl ⟨.ok false, nofun, rfl⟩
  | some p =>
    unfold initialise
    dsimp only
    cases h1 : sigValid p.key (chalMsg c) p.sig with
    | false => exact .inl ⟨.err, nofun, rfl⟩
    | true =>
      cases h2 : p.rowValid with
      | false => exact .inl ⟨.err, nofun, rfl⟩
      | true =>
        cases tt with
        | allowedPeer e =>
          simp only [Bool.not_true, Bool.false_eq_true, if_false]
          by_cases h3 : e = p.key
          · rw [if_neg (not_not_intro h3)]
            have he : ∀ e', TokenType.allowedPeer e = .allowedPeer e' → p.key = e' := fun e' he => by cases he; exact h3.symm
            by_cases h4 : localKey = p.key
            · rw [if_pos h4]; exact .inr ⟨p, _, _, _, rfl, rfl, h2, h1, he, nofun⟩
            · rw [if_neg h4]; exact .inr ⟨p, _, _, _, rfl, rfl, h2, h1, he, nofun⟩
          · rw [if_pos h3]; exact .inl ⟨.err, nofun, rfl⟩
        | ownedInvite id => exact .inr ⟨p, _, _, _, rfl, rfl, h2, h1, nofun, nofun⟩
        | invite inv =>
          dsimp only
          cases h4 : sigValid p.key (inviteHash inv.id inv.app) inv.sign with
          | false => exact .inl ⟨.err, nofun, rfl⟩
          | true => exact .inr ⟨p, _, _, _, rfl, rfl, h2, h1, nofun, fun inv' h => by cases h; exact h4⟩

def countInvite (t : Table) (id : Nat) : Nat := (t.filter fun e => inviteIdOf e.2 == some id).length

section
variable {t : Table} {id : Nat} {tok : Token} {tt : TokenType} {e : Token × TokenType}

theorem reachable_iff : reachable t id = true ↔ ∃ e ∈ t, inviteIdOf e.2 = some id := by
  simp only [reachable, List.any_eq_true, beq_iff_eq]

theorem unreachable_iff : reachable t id = false ↔ ∀ e ∈ t, inviteIdOf e.2 ≠ some id := by
  simp only [reachable, List.any_eq_false, beq_iff_eq, ne_eq]

theorem count_eq_zero_iff : countInvite t id = 0 ↔ reachable t id = false := by
  simp only [countInvite, reachable, List.length_eq_zero_iff, List.filter_eq_nil_iff, List.any_eq_false]

theorem count_append (t u : Table) (id : Nat) : countInvite (t ++ u) id = countInvite t id + countInvite u id := by
  simp only [countInvite, List.filter_append, List.length_append]

theorem count_cons (e : Token × TokenType) (t : Table) (id : Nat) :
    countInvite (e :: t) id = (if inviteIdOf e.2 = some id then 1 else 0) + countInvite t id := by
  unfold countInvite
  rw [List.filter_cons]
  by_cases h : inviteIdOf e.2 = some id
  · rw [if_pos (beq_iff_eq.mpr h), if_pos h, List.length_cons, Nat.add_comm]
  · rw [if_neg (fun h' => h (beq_iff_eq.mp h')), if_neg h, Nat.zero_add]

theorem sameInvite_id {x : TokenType} (h : inviteIdOf tt = some id) (hs : sameInvite tt x = true) :
    inviteIdOf x = some id := by
  cases tt <;> cases x <;> simp_all [sameInvite, inviteIdOf]

theorem removeFirst_eq_eraseP (tok : Token) (tt : TokenType) :
    ∀ t : Table, removeFirst tok tt t = t.eraseP fun e => e.1 = tok ∧ sameInvite tt e.2
  | [] => rfl
  | e :: rest => by
    rw [removeFirst, List.eraseP_cons, removeFirst_eq_eraseP tok tt rest]
    by_cases h : e.1 = tok ∧ sameInvite tt e.2 = true
    · rw [if_pos h, decide_eq_true h, cond_true]
    · rw [if_neg h, decide_eq_false h, cond_false]

theorem count_removeFirst_hit (hid : inviteIdOf tt = some id) (t : Table)
    (h : ∃ e ∈ t, e.1 = tok ∧ sameInvite tt e.2 = true) :
    countInvite (removeFirst tok tt t) id + 1 = countInvite t id := by
  obtain ⟨e, he, hp⟩ := h
  obtain ⟨a, l₁, l₂, _, ha, hl, hr⟩ := List.exists_of_eraseP (p := fun e => e.1 = tok ∧ sameInvite tt e.2) he (decide_eq_true hp)
  rw [removeFirst_eq_eraseP, hr, hl, count_append, count_append, count_cons,
    if_pos (sameInvite_id hid (of_decide_eq_true ha).2)]
  omega

theorem mem_removeFirst
    (h : e ∈ removeFirst tok tt t) : e ∈ t :=
  List.mem_of_mem_eraseP (removeFirst_eq_eraseP tok tt t ▸ h)

theorem inviteAccepted_unreachable {d : Defects} (hd : d.inviteRemovedUnderPeerToken = false) {k : Key} {ptok : Token}
    (hid : inviteIdOf tt = some id) (hone : countInvite t id = 1)
    (hin : ∃ e ∈ t, e.1 = .derived id ∧ sameInvite tt e.2 = true) :
    reachable (inviteAccepted d t tt k ptok) id = false := by
  obtain ⟨e, he, h⟩ := hin
  have := count_removeFirst_hit (tok := .derived id) hid (t ++ [(ptok, .allowedPeer k)]) ⟨e, List.mem_append_left _ he, h⟩
  rw [count_append, hone, count_cons, if_neg nofun] at this
  have h0 : countInvite [] id = 0 := rfl
  simp only [inviteAccepted, hid, hd, Bool.false_eq_true, if_false]
  exact count_eq_zero_iff.mp (by omega)

theorem lookup_mem {key : Key} (h : lookup t tok key = some tt) :
    (tok, tt) ∈ t := by
  unfold lookup at h
  have := List.mem_of_find?_eq_some h
  simp only [List.mem_map, List.mem_filter, decide_eq_true_eq] at this
  obtain ⟨e, ⟨he, h1⟩, h2⟩ := this
  rw [← h1, ← h2]; exact he

theorem lookup_ne_invite_of_unreachable (h : reachable t id = false) (tok : Token) (key : Key)
    (tt : TokenType) (hl : lookup t tok key = some tt) : inviteIdOf tt ≠ some id :=
  unreachable_iff.mp h (tok, tt) (lookup_mem hl)

theorem mem_restart : e ∈ restart t ↔ e ∈ t := by
  unfold restart
  simp only [List.mem_append, List.mem_filter]
  constructor
  · rintro ((⟨h, _⟩ | ⟨h, _⟩) | ⟨h, _⟩) <;> exact h
  · intro h
    cases e.2 with
    | allowedPeer k => exact Or.inl (Or.inl ⟨h, rfl⟩)
    | ownedInvite n => exact Or.inl (Or.inr ⟨h, rfl⟩)
    | invite inv => exact Or.inr ⟨h, rfl⟩

theorem reachable_restart (t : Table) (id : Nat) : reachable (restart t) id = reachable t id :=
  Bool.eq_iff_iff.mpr (by simp only [reachable_iff, mem_restart])

end

/-- one operation on the token table of `PeerManager` -/
inductive TOp where
  | create (id : Nat)                                        -- `create_invite`
  | accept (inv : Invite)                                    -- `accept_invite` (refused for another application)
  | accepted (tt : TokenType) (k : Key) (ptok : Token)       -- `invite_accepted`
  | restart                                                  -- a new `PeerManager` on the same database
deriving Repr

def applyOp (app : Nat) (t : Table) : TOp → Table
  | .create id => createInvite t id
  | .accept inv => (acceptInvite app t inv).getD t
  | .accepted tt k ptok => inviteAccepted Defects.asImplemented t tt k ptok
  | .restart => restart t

def applyOps (app : Nat) (t : Table) (ops : List TOp) : Table := ops.foldl (applyOp app) t

/-- the operation does not bring invitation `id` (back) into the table -/
def TOp.avoids (id : Nat) : TOp → Prop
  | .create id' => id' ≠ id
  | .accept inv => inv.id ≠ id
  | _ => True

instance (id : Nat) (op : TOp) : Decidable (op.avoids id) := by
  cases op <;> unfold TOp.avoids <;> infer_instance

def OwnApp (app : Nat) (t : Table) : Prop := ∀ e ∈ t, ∀ inv, e.2 = .invite inv → inv.app = app

section
variable {app : Nat} {t : Table} {id : Nat} {op : TOp}

theorem mem_applyOp {e : Token × TokenType} (h : e ∈ applyOp app t op) :
    e ∈ t ∨ (∃ id, op = .create id ∧ e = (.derived id, .ownedInvite id)) ∨
      (∃ inv, op = .accept inv ∧ inv.app = app ∧ e = (.derived inv.id, .invite inv)) ∨
      (∃ tt k ptok, op = .accepted tt k ptok ∧ e = (ptok, .allowedPeer k)) := by
  have snoc : ∀ {x}, e ∈ t ++ [x] → e ∈ t ∨ e = x := fun h => (List.mem_append.mp h).imp_right List.mem_singleton.mp
  cases op with
  | create id => exact (snoc h).imp_right fun h => .inl ⟨id, rfl, h⟩
  | accept inv =>
    simp only [applyOp, acceptInvite] at h
    by_cases ha : inv.app = app
    · rw [if_neg (not_not_intro ha)] at h
      exact (snoc h).imp_right fun h => .inr (.inl ⟨inv, rfl, ha, h⟩)
    · rw [if_pos ha] at h
      exact .inl h
  | accepted tt k ptok =>
    have hm : e ∈ t ++ [(ptok, .allowedPeer k)] := by
      simp only [applyOp, inviteAccepted] at h
      split at h
      · exact h
      · exact mem_removeFirst h
    exact (snoc hm).imp_right fun h => .inr (.inr ⟨tt, k, ptok, rfl, h⟩)
  | restart => exact .inl (mem_restart.mp h)

theorem unreachable_applyOp (h : reachable t id = false) (ha : op.avoids id) : reachable (applyOp app t op) id = false := by
  rw [unreachable_iff] at h ⊢
  intro e he hid
  rcases mem_applyOp he with h1 | ⟨id', rfl, rfl⟩ | ⟨inv, rfl, _, rfl⟩ | ⟨tt, k, ptok, rfl, rfl⟩
  · exact h e h1 hid
  · exact ha (Option.some.inj hid)
  · exact ha (Option.some.inj hid)
  · cases hid

theorem unreachable_applyOps (ops : List TOp) (h : reachable t id = false)
    (ha : ∀ op ∈ ops, op.avoids id) : reachable (applyOps app t ops) id = false :=
  foldl_invariant (reachable · id = false) h fun _ op hop h => unreachable_applyOp h (ha op hop)

theorem ownApp_applyOp (h : OwnApp app t) (op : TOp) : OwnApp app (applyOp app t op) := by
  intro e he inv hinv
  rcases mem_applyOp he with h1 | ⟨id', _, rfl⟩ | ⟨inv', _, happ, rfl⟩ | ⟨tt, k, ptok, _, rfl⟩
  · exact h e h1 inv hinv
  · cases hinv
  · cases hinv; exact happ
  · cases hinv

theorem ownApp_applyOps (ops : List TOp) (h : OwnApp app t) : OwnApp app (applyOps app t ops) :=
  foldl_invariant (OwnApp app) h fun _ op _ h => ownApp_applyOp h op

end

theorem dh_comm (a b : Nat) : dh a (pubOf b) = dh b (pubOf a) := by
  simp only [dh, pubOf, ← Nat.pow_mul, Nat.mul_comm]

theorem pubOf_inj {a b : Nat} (h : pubOf a = pubOf b) : a = b :=
  (Nat.pow_right_inj (by decide : 1 < g)).mp h

end Discret.Handshake
