import DiscretModel.Lemmas.DailyLog
/-
For every version of the code, the lazily evaluated `SELECT` included: every MARKED day that keeps a row (it has
content, or emptied days keep their row) is recomputed to the count and the daily hash of its content, whatever happens
to the history chain.
-/
namespace Discret.DailyLog

def DailyRight (sigs : Content) (room ent : Nat) (day : Nat) (r' : DayRow) : Prop :=
  r'.day = day ∧ r'.dirty = false ∧ r'.count = (sigs room ent day).length ∧ r'.daily = dailyOf (sigs room ent day)

theorem Rewritten.dailyRight {sigs : Content} {room ent : Nat} {r r' : DayRow} (h : Rewritten sigs room ent r r')
    (hd : r.dirty = true) : DailyRight sigs room ent r.day r' := by
  obtain ⟨h1, h2, ⟨h3, _⟩ | ⟨_, h4, h5⟩⟩ := h
  · rw [hd] at h3; cases h3
  · exact ⟨h2, h1, h4, h5⟩

/-- what the loop writes for a row that was written by the loop a moment ago: the same day, count and daily hash -/
theorem DailyRight.rewritten {sigs : Content} {room ent day : Nat} {r r' : DayRow}
    (h : DailyRight sigs room ent day r) (h' : Rewritten sigs room ent r r') : DailyRight sigs room ent day r' := by
  obtain ⟨h1, h2, ⟨_, h4, h5⟩ | ⟨h3, _⟩⟩ := h'
  · exact ⟨h2.trans h.1, h1, h4.trans h.2.2.1, h5.trans h.2.2.2⟩
  · rw [h.2.1] at h3; cases h3

section
variable {d : Defects} (sigs : Content)

theorem lazyStep_marked (room ent : Nat) (c : Cursor) {r : DayRow} (hd : r.dirty = true)
    (he : d.emptyDayRow = true ∨ sigs room ent r.day ≠ []) (nd : Bool) :
    ∃ r', (lazyStep d sigs room ent c r nd).2 = some r' ∧ DailyRight sigs room ent r.day r' := by
  cases h1 : (stepRow d sigs room ent c r).2 with
  | none =>
    obtain ⟨_, h2, h3⟩ := (stepRow_none_iff d sigs room ent c).mp h1
    exact he.elim (fun h => by rw [h3] at h; cases h) (fun h => absurd h2 h)
  | some r1 =>
    have h2 := (stepRow_some d sigs room ent c h1).dailyRight hd
    unfold lazyStep
    rw [if_pos hd, show stepRow d sigs room ent c r = ((stepRow d sigs room ent c r).1, some r1) by rw [← h1]]
    dsimp only
    split
    · cases h3 : (stepRow d sigs room ent (stepRow d sigs room ent c r).1 r1).2 with
      | none =>
        have := ((stepRow_none_iff d sigs room ent _).mp h3).1
        rw [h2.2.1] at this; cases this
      | some r2 => exact ⟨r2, rfl, h2.rewritten (stepRow_some d sigs room ent _ h3)⟩
    · exact ⟨r1, rfl, h2⟩

theorem walkLazy_marked (room ent : Nat) (l : List DayRow) (c : Cursor) :
    ∀ r ∈ l, r.dirty = true → (d.emptyDayRow = true ∨ sigs room ent r.day ≠ []) →
      ∃ r' ∈ (walkLazy d sigs room ent c l).2, DailyRight sigs room ent r.day r' := by
  induction l generalizing c with
  | nil => intro r hr; cases hr
  | cons a t ih =>
    intro r hr hd he
    simp only [walkLazy]
    rcases List.mem_cons.mp hr with e | e
    · subst e
      obtain ⟨r', e1, e2⟩ := lazyStep_marked sigs room ent c hd he (nextIsDirty t)
      exact ⟨r', by simp [e1], e2⟩
    · obtain ⟨r', m1, m2⟩ := ih (lazyStep d sigs room ent c a (nextIsDirty t)).1 r e hd he
      exact ⟨r', by simp [m1], m2⟩

/-- whichever way the window is read: stepped while the loop runs (`lazyScan`), or before the loop -/
theorem recomputeGroup_marked (c : Cursor) (g : Group) :
    ∀ r ∈ g.rows, r.dirty = true → (d.emptyDayRow = true ∨ sigs g.room g.ent r.day ≠ []) →
      ∃ r' ∈ (recomputeGroup d sigs c g).2.rows, DailyRight sigs g.room g.ent r.day r' := by
  intro r hr hd he
  cases hl : d.lazyScan with
  | false =>
    obtain ⟨r', h1, h2⟩ := recomputeGroup_keeps hl sigs c g hr (Or.inr he)
    exact ⟨r', h1, h2.dailyRight hd⟩
  | true =>
    have hre := fromFirstDirty_isEmpty.mpr ⟨r, hr, hd⟩
    have e : recomputeGroup d sigs c g =
        ((walkLazy d sigs g.room g.ent c g.rows).1, { g with rows := (walkLazy d sigs g.room g.ent c g.rows).2 }) := by
      simp [recomputeGroup, hre, hl]
    rw [e]
    exact walkLazy_marked sigs g.room g.ent g.rows c r hr hd he

theorem recomputeFrom_dailyRight (log : Log) (c : Cursor) :
    ∀ g ∈ log, ∀ r ∈ g.rows, r.dirty = true → (d.emptyDayRow = true ∨ sigs g.room g.ent r.day ≠ []) →
      ∃ g' ∈ recomputeFrom d sigs c log, g'.room = g.room ∧ g'.ent = g.ent ∧
        ∃ r' ∈ g'.rows, DailyRight sigs g.room g.ent r.day r' :=
  fun g hg r hr hd he => recomputeFrom_row sigs log c hg fun c' => recomputeGroup_marked sigs c' g r hr hd he

end

theorem recomputeFrom_marked {d : Defects} (he : d.emptyDayRow = true) (hl : d.lazyScan = true)
    (sigs : Content) (log : Log) (c : Cursor) :
    ∀ g ∈ log, ∀ r ∈ g.rows, r.dirty = true →
      ∃ g' ∈ recomputeFrom d sigs c log, g'.room = g.room ∧ g'.ent = g.ent ∧
        ∃ r' ∈ g'.rows, DailyRight sigs g.room g.ent r.day r' :=
  fun g hg r hr hd => recomputeFrom_dailyRight sigs log c g hg r hr hd (Or.inl he)

end Discret.DailyLog
