import DiscretModel.Model.Writer
import DiscretModel.Lemmas.Basic
/-
Lemmas about the batch-writer model (`Model/Writer.lean`). The daily-log invariant `LogInv`
(every entry that is not flagged agrees with the content of its day, every day with content has an entry)
holds inside a transaction up to the days collected for the marks so far (`WorkInv`); the marks write
re-establishes it, and a recomputation turns it into `LogClean` (nothing flagged, everything agrees).
-/
namespace Discret.Writer
open Discret.Gen.WriterTable (OnError)

theorem count_of_day {a b : Db} {d : Day} (hr : dayRows a d = dayRows b d) (ht : dayTombs a d = dayTombs b d) :
    count a d = count b d := by
  simp [count, hr, ht]

theorem digest_of_day {a b : Db} {d : Day} (hr : dayRows a d = dayRows b d) (ht : dayTombs a d = dayTombs b d) :
    digest a d = digest b d := by
  simp only [digest, count_of_day hr ht, hr, ht]

def Fresh (db : Db) (e : LogEntry) : Prop := e.count = count db e.day ∧ e.hash = digest db e.day

theorem Fresh.of_day {a b : Db} {e : LogEntry} (hr : dayRows a e.day = dayRows b e.day)
    (ht : dayTombs a e.day = dayTombs b e.day) (h : Fresh a e) : Fresh b e := by
  unfold Fresh at *
  rw [← count_of_day hr ht, ← digest_of_day hr ht]; exact h

def LogInv (db : Db) : Prop :=
  (∀ e ∈ db.log, e.dirty = false → Fresh db e) ∧ (∀ d, 0 < count db d → ∃ e ∈ db.log, e.day = d)

def WorkInv (w : Work) : Prop :=
  (∀ e ∈ w.1.log, e.dirty = false → e.day ∈ w.2 ∨ Fresh w.1 e) ∧
  (∀ d, 0 < count w.1 d → d ∈ w.2 ∨ ∃ e ∈ w.1.log, e.day = d)

def LogClean (db : Db) : Prop :=
  (∀ e ∈ db.log, e.dirty = false ∧ Fresh db e) ∧ (∀ d, 0 < count db d → ∃ e ∈ db.log, e.day = d)

theorem LogInv.toWork {db : Db} (h : LogInv db) : WorkInv (db, []) :=
  ⟨fun e he hd => Or.inr (h.1 e he hd), fun d hd => Or.inr (h.2 d hd)⟩

theorem filter_day_of_key {rows : List Row} {k : Key} {d : Day} (h : d ∉ oldDays rows k) :
    (rows.filter (fun r => r.key ≠ k)).filter (fun r => r.day = d) = rows.filter (fun r => r.day = d) := by
  rw [List.filter_filter]
  refine List.filter_congr fun r hr => ?_
  have hk : r.day = d → r.key ≠ k := fun hd hk =>
    h (List.mem_map.mpr ⟨r, List.mem_filter.mpr ⟨hr, decide_eq_true hk⟩, hd⟩)
  by_cases hd : r.day = d
  · simp [hd, hk hd]
  · simp [hd]

theorem recomputeLog_mem {db : Db} {e' : LogEntry} (h : e' ∈ recomputeLog db) :
    e'.dirty = false ∧ (Fresh db e' ∨ e' ∈ db.log) := by
  obtain ⟨e, he, h2⟩ := List.mem_filterMap.mp h
  cases hd : e.dirty <;> rw [hd] at h2
  · cases h2
    exact ⟨hd, Or.inr he⟩
  · by_cases hc : count db e.day = 0
    · rw [if_pos rfl, if_pos hc] at h2; cases h2
    · rw [if_pos rfl, if_neg hc] at h2; cases h2
      exact ⟨rfl, Or.inl (by constructor <;> rfl)⟩

theorem recomputeLog_days {db : Db} {d : Day} (h : ∃ e ∈ db.log, e.day = d) (hc : 0 < count db d) :
    ∃ e' ∈ recomputeLog db, e'.day = d := by
  obtain ⟨e, he, rfl⟩ := h
  simp only [recomputeLog, List.mem_filterMap]
  cases hd : e.dirty
  · exact ⟨e, ⟨e, he, by simp [hd]⟩, rfl⟩
  · exact ⟨{ day := e.day, count := count db e.day, hash := digest db e.day, dirty := false },
      ⟨e, he, by simp [hd, Nat.ne_of_gt hc]⟩, rfl⟩

theorem WorkInv.step {w : Work} (hw : WorkInv w) {db' : Db} {days : List Day} (hlog : db'.log = w.1.log)
    (hsame : ∀ d, d ∉ days → dayRows db' d = dayRows w.1 d ∧ dayTombs db' d = dayTombs w.1 d) :
    WorkInv (db', days ++ w.2) := by
  constructor
  · intro e he hd
    by_cases hday : e.day ∈ days
    · exact Or.inl (List.mem_append_left _ hday)
    · exact (hw.1 e (hlog ▸ he) hd).imp (List.mem_append_right _)
        (Fresh.of_day (hsame _ hday).1.symm (hsame _ hday).2.symm)
  · intro d hd
    by_cases hday : d ∈ days
    · exact Or.inl (List.mem_append_left _ hday)
    · rw [count_of_day (hsame d hday).1 (hsame d hday).2] at hd
      exact (hw.2 d hd).imp (List.mem_append_right _) (hlog ▸ ·)

theorem applyStmt_workInv (marks : Bool) (w : Work) (s : Stmt) (hw : WorkInv w)
    (hm : marks = true ∨ s.touchesLog = false) : WorkInv (applyStmt marks w s) := by
  fun_cases applyStmt marks w s
  case case1 k v d =>
    cases hm.resolve_right (fun h : true = false => nomatch h)
    refine hw.step (days := d :: oldDays w.1.rows k) rfl fun d' hd' => ?_
    have ⟨h1, h2⟩ := not_or.mp (mt List.mem_cons.mpr hd')
    -- the new row does not sit on `d'`, and no row of key `k` did
    refine ⟨congrArg (List.map _) ?_, rfl⟩
    exact (List.filter_cons_of_neg (by simpa using Ne.symm h1)).trans (filter_day_of_key h2)
  case case2 k d loc _ =>
    cases hm.resolve_right (fun h : true = false => nomatch h)
    refine hw.step (days := d :: oldDays w.1.rows k) rfl fun d' hd' => ?_
    have ⟨h1, h2⟩ := not_or.mp (mt List.mem_cons.mpr hd')
    exact ⟨congrArg (List.map _) (filter_day_of_key h2),
      congrArg (List.map _) (List.filter_cons_of_neg (by simpa using Ne.symm h1))⟩
  case case3 => exact hw
  case case4 => exact hw.step (days := []) rfl fun _ _ => ⟨rfl, rfl⟩
  case case5 =>
    constructor
    · intro e' he' hd'
      obtain ⟨hc, hf | he⟩ := recomputeLog_mem he'
      · exact Or.inr hf
      · exact hw.1 e' he hc
    · exact fun d' hd' => (hw.2 d' hd').imp id (recomputeLog_days · hd')

theorem applyStmts_workInv (marks : Bool) (l : List Stmt) (w : Work) (hw : WorkInv w)
    (hm : marks = true ∨ ∀ s ∈ l, s.touchesLog = false) : WorkInv (applyStmts marks w l) :=
  foldl_invariant WorkInv hw fun w s hs hw => applyStmt_workInv marks w s hw (hm.imp id (· s hs))

def Msg.WF (T : Table) (m : Msg) : Prop := T.marks m.kind = true ∨ ∀ s ∈ m.stmts, s.touchesLog = false

theorem applyMsgs_workInv (T : Table) (ms : List Msg) (w : Work) (hw : WorkInv w)
    (hm : ∀ m ∈ ms, m.WF T) : WorkInv (applyMsgs T w ms) :=
  foldl_invariant WorkInv hw fun w m hm' hw => applyStmts_workInv _ m.stmts w hw (hm m hm')

theorem markDay_clean {log : List LogEntry} {d : Day} {e : LogEntry} (hc : e.dirty = false) :
    e ∈ markDay log d → e ∈ log ∧ e.day ≠ d := by
  fun_cases markDay log d
  · intro h
    obtain ⟨e0, he0, rfl⟩ := List.mem_map.mp h
    split at hc
    · cases hc
    · rename_i hd
      rw [if_neg hd]
      exact ⟨he0, hd⟩
  · rename_i hn
    intro h
    rcases List.mem_append.mp h with h | h
    · exact ⟨h, fun hd => hn (List.any_eq_true.mpr ⟨e, h, decide_eq_true hd⟩)⟩
    · cases List.mem_singleton.mp h; cases hc

theorem day_mem_markDay {log : List LogEntry} {d x : Day} (h : x = d ∨ ∃ e ∈ log, e.day = x) :
    ∃ e ∈ markDay log d, e.day = x := by
  fun_cases markDay log d
  · rename_i hany
    have ⟨e, he, hx⟩ : ∃ e ∈ log, e.day = x := h.elim (fun hd => by
      obtain ⟨e, he, h'⟩ := List.any_eq_true.mp hany
      exact ⟨e, he, hd ▸ of_decide_eq_true h'⟩) id
    refine ⟨_, List.mem_map_of_mem he, ?_⟩
    split <;> exact hx
  · rcases h with rfl | ⟨e, he, hx⟩
    · exact ⟨_, List.mem_append_right _ (List.mem_singleton_self _), rfl⟩
    · exact ⟨e, List.mem_append_left _ he, hx⟩

theorem writeMarks_clean {days : List Day} {log : List LogEntry} {e : LogEntry}
    (h : e ∈ writeMarks log days) (hc : e.dirty = false) : e ∈ log ∧ e.day ∉ days := by
  induction days generalizing log with
  | nil => exact ⟨h, by simp⟩
  | cons d ds ih =>
    simp only [writeMarks, List.foldl_cons] at h
    obtain ⟨h1, h2⟩ := ih h
    obtain ⟨h3, h4⟩ := markDay_clean hc h1
    exact ⟨h3, by simp [h4, h2]⟩

theorem day_mem_writeMarks {days : List Day} {log : List LogEntry} {x : Day}
    (h : x ∈ days ∨ ∃ e ∈ log, e.day = x) : ∃ e ∈ writeMarks log days, e.day = x := by
  induction days generalizing log with
  | nil => exact h.elim (fun h => nomatch h) id
  | cons d ds ih =>
    refine ih (log := markDay log d) ?_
    rcases h with h | h
    · exact (List.mem_cons.mp h).symm.imp id fun h => day_mem_markDay (Or.inl h)
    · exact Or.inr (day_mem_markDay (Or.inr h))

theorem writeMarks_logInv {w : Work} (hw : WorkInv w) : LogInv { w.1 with log := writeMarks w.1.log w.2 } := by
  constructor
  · intro e he hc
    obtain ⟨h1, h2⟩ := writeMarks_clean he hc
    exact (hw.1 e h1 hc).resolve_left h2
  · exact fun d hd => day_mem_writeMarks (hw.2 d hd)

theorem commitBatch_logInv (T : Table) (db : Db) (ms : List Msg) (h : LogInv db) (hm : ∀ m ∈ ms, m.WF T) :
    LogInv (commitBatch T db ms) :=
  writeMarks_logInv (applyMsgs_workInv T ms _ h.toWork hm)

theorem restart_clean {db : Db} (h : LogInv db) : LogClean (restart db).db := by
  constructor
  · intro e' he'
    obtain ⟨hc, hf | he⟩ := recomputeLog_mem he'
    · exact ⟨hc, hf⟩
    · exact ⟨hc, h.1 e' he hc⟩
  · exact fun d hd => recomputeLog_days (h.2 d hd) hd

theorem LogClean.inv {db : Db} (h : LogClean db) : LogInv db :=
  ⟨fun e he _ => (h.1 e he).2, h.2⟩

def NoSwallow (T : Table) (ms : List Msg) : Prop :=
  ∀ m ∈ ms, T.onError m.kind = .rollbackReturn ∨ T.onError m.kind = .returnOnly ∨ m.stmts = []

def AllRollback (T : Table) (ms : List Msg) : Prop :=
  ∀ m ∈ ms, T.onError m.kind = .rollbackReturn ∨ m.stmts = []

theorem AllRollback.noSwallow {T : Table} {ms : List Msg} (h : AllRollback T ms) : NoSwallow T ms :=
  fun m hm => (h m hm).elim Or.inl (fun h => Or.inr (Or.inr h))

theorem stmts_ne_nil_of_fault {f : Option Fault} {i fj : Nat} {m : Msg}
    (h : (match f with
      | some (.stmt fi fj) => if fi = i ∧ fj < m.stmts.length then some fj else none
      | _ => none) = some fj) : m.stmts ≠ [] := by
  intro he
  split at h
  · split at h
    · rename_i hc; rw [he] at hc; exact Nat.not_lt_zero _ hc.2
    · cases h
  · cases h

theorem runGroups_done {T : Table} {f : Option Fault} {ms : List Msg} (h : NoSwallow T ms)
    (w : Work) (i : Nat) (w' : Work) (hr : runGroups T f w i ms = .done w') : w' = applyMsgs T w ms := by
  fun_induction runGroups T f w i ms
  case case1 => exact (Loop.done.inj hr).symm
  case case2 | case3 => exact nomatch hr
  case case4 m _ _ hf _ h1 h2 _ =>
    -- the failing group would have lost its error
    exact ((h m List.mem_cons_self).elim h1 fun h' => h'.elim h2 (stmts_ne_nil_of_fault hf)).elim
  case case5 ih => exact ih (fun m hm => h m (List.mem_cons_of_mem _ hm)) hr

theorem runGroups_failed {T : Table} {f : Option Fault} {ms : List Msg} (h : AllRollback T ms)
    (w : Work) (i : Nat) (w' : Work) (b : Bool) (hr : runGroups T f w i ms = .failed w' b) : b = true := by
  fun_induction runGroups T f w i ms
  case case1 => exact nomatch hr
  case case2 => exact (Loop.failed.inj hr).2.symm
  case case3 m _ _ hf _ h1 =>
    -- an arm that returns without ROLLBACK
    have := (h m List.mem_cons_self).resolve_right (stmts_ne_nil_of_fault hf)
    rw [h1] at this; cases this
  case case4 ih | case5 ih => exact ih (fun m hm => h m (List.mem_cons_of_mem _ hm)) hr

theorem runGroups_noStmtFault {T : Table} {f : Option Fault} (hf : ∀ i j, f ≠ some (.stmt i j)) :
    ∀ (ms : List Msg) (w : Work) (i : Nat), runGroups T f w i ms = .done (applyMsgs T w ms) := by
  intro ms
  induction ms with
  | nil => intro w i; simp [runGroups, applyMsgs]
  | cons m ms ih =>
    intro w i
    -- `hf` discharges the side condition of the equation of `runGroups` for a group without a failing statement
    simp only [runGroups, applyMsgs, List.foldl_cons]
    exact ih _ _

end Discret.Writer
