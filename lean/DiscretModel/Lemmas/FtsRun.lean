import DiscretModel.Lemmas.Fts
/-
The agreement between rows and index along runs of the full-text model: global invariant (every site agrees,
a row number means the same entity everywhere), preserved, for any setting of the defects, by the operations that
setting handles (`Op.admissible`) — all of them for the intended behaviour.

`step` and `localOp` are read once, into `Step` and `LocalStep`; every invariant along runs is a case analysis
over those.
-/
namespace Discret.Fts

theorem forall_mem_set {α : Type} {P : α → Prop} {l : List α} (h : ∀ x, x ∈ l → P x) {a : α} (ha : P a) (i : Nat) :
    ∀ x, x ∈ l.set i a → P x :=
  fun x hx => (List.mem_or_eq_of_mem_set hx).elim (h x) fun e => e ▸ ha

theorem forall_init_sites {P : Site → Prop} (h : P Site.empty) (d : Defects) (n : Nat) :
    ∀ s, s ∈ (init d n).sites → P s :=
  fun _ hs => (List.mem_replicate.mp hs).2 ▸ h

theorem prevOf_ok (r : Row) : PrevText r (prevOf r) := by
  unfold PrevText prevOf
  split
  · exact .inl rfl
  · next h => exact .inr ⟨rfl, (by simpa using h : _ ∧ _).2⟩

/-- operations of the guard of `C17_partial`: local creations and updates, model versions, searches -/
def Op.localOnly : Op → Bool
  | .del _ _ | .pull _ _ => false
  | _ => true

def Op.site : Op → Nat
  | .model s _ | .new s _ _ _ | .newx s _ _ | .upd s _ _ | .clr s _ | .del s _ | .pull s _ | .q s _ _ | .qall s
  | .link s _ _ | .qn s _ | .qnall s => s

def Op.fresh : Op → List Nat
  | .new _ n _ _ | .newx _ n _ => [n]
  | _ => []

/-- the effect of `localOp` on its site, by kind.
    `refs`, `logged`, `tombs` are left open where no invariant reads them. -/
inductive LocalStep (d : Defects) (used : List Nat) (s : Site) : Op → Site → Prop
  | declare (si v : Nat) (hi : d.toggleIgnored = true) : LocalStep d used s (.model si v) { s with declared := v }
  | flag (si v : Nat) (hi : d.toggleIgnored = false) (hr : d.toggleNoReindex = true) :
      LocalStep d used s (.model si v) { s with declared := v, indexOn := declaredOn v }
  | reindex (si v : Nat) (hi : d.toggleIgnored = false) (hr : d.toggleNoReindex = false) :
      LocalStep d used s (.model si v)
        { s with declared := v, indexOn := declaredOn v, idx := toggleIdx s (declaredOn v),
                 docs := toggleDocs s (declaredOn v) }
  | create {op : Op} (row : Row) (logged : List Ent) (hf : op.fresh = [row.n]) (hu : row.n ∉ used)
      (hr : ∀ r, r ∈ s.rows → r.n ≠ row.n) :
      LocalStep d used s op { writeInsert (s.indexOn row.ent) row s with logged := logged }
  | write {op : Op} (old new : Row) (refs : List (Nat × Nat)) (logged : List Ent)
      (ho : old ∈ s.rows) (hn : new.n = old.n) (he : new.ent = old.ent) :
      LocalStep d used s op
        { writeUpdate d.deleteUnguarded (s.indexOn old.ent) old new (prevOf old) s with refs := refs, logged := logged }
  | same {op : Op} : LocalStep d used s op s
  | delete (si : Nat) (old : Row) (refs : List (Nat × Nat)) (tombs : List Tomb) (logged : List Ent) (ho : old ∈ s.rows) :
      LocalStep d used s (.del si old.n)
        { s with rows := eraseRow old.n s.rows, refs := refs, tombs := tombs,
                 idx := if d.deleteLeavesIndex then s.idx else dropEntries s.docs old s.idx,
                 docs := if d.deleteLeavesIndex then s.docs else docDel old.slot s.docs, logged := logged }

theorem newOp_spec {d : Defects} {tick : Nat} {used : List Nat} {s s1 : Site} {n : Nat} {e : Ent} {text : List Word}
    {str : Bool} {op : Op} (hf : op.fresh = [n]) (h : newOp tick used s n e text str = some s1) :
    LocalStep d used s op s1 := by
  unfold newOp at h
  rw [Option.ite_none_left_eq_some] at h
  obtain ⟨hc, h⟩ := h
  cases h
  simp only [Bool.or_eq_true, List.contains_iff_mem, decide_eq_true_eq, Option.isSome_iff_ne_none, ne_eq,
    not_or, Decidable.not_not] at hc
  exact .create { n := n, ent := e, text := text, str := str, ver := tick, ctick := tick, slot := 0 } _ hf hc.1.1
    (findRow_none hc.2)

theorem localOp_spec {d : Defects} {multi : Bool} {tick : Nat} {used : List Nat} {s s1 : Site} {op : Op}
    (h : localOp d multi tick used s op = some s1) : LocalStep d used s op s1 := by
  cases op with
  | model si v =>
    dsimp only [localOp] at h
    split at h
    · cases h
    · split at h
      next hi =>
        cases h
        exact .declare si v hi
      next hi =>
        split at h <;> cases h
        next hr => exact .flag si v (Bool.eq_false_iff.mpr hi) hr
        next hr => exact .reindex si v (Bool.eq_false_iff.mpr hi) (Bool.eq_false_iff.mpr hr)
  | new si n e text | newx si n e => exact newOp_spec rfl h
  | upd si n text | clr si n =>
    dsimp only [localOp] at h
    split at h
    · cases h
    · rename_i old hf
      cases h
      exact .write old _ _ _ (findRow_some hf).1 rfl rfl
  | del si n =>
    dsimp only [localOp] at h
    split at h
    · cases h
    · rename_i old hf
      cases h
      obtain ⟨ho, rfl⟩ := findRow_some hf
      exact .delete si old _ _ _ ho
  | link si n m =>
    dsimp only [localOp] at h
    split at h
    · rename_i old child hf _
      rw [Option.ite_none_left_eq_some] at h
      obtain ⟨_, h⟩ := h
      by_cases hr : s.refs.contains (n, m) = true
      · rw [if_pos hr] at h
        cases h
        exact .same
      · rw [if_neg hr] at h
        cases h
        exact .write old _ _ _ (findRow_some hf).1 rfl rfl
    · cases h
  | _ => cases h

/-- the effect of `step` on the state. `tick` and `words` are left open: no invariant reads them. -/
inductive Step (st : State) : Op → State → Prop
  | skip (op : Op) : Step st op st
  | loc {op : Op} {s s1 : Site} (tick : Nat) (used : List Nat) (words : List Word)
      (hs : st.sites[op.site]? = some s) (hl : LocalStep st.d st.usedRows s op s1)
      (hu : used = st.usedRows ++ op.fresh) :
      Step st op { st with sites := st.sites.set op.site s1, tick := tick, usedRows := used, words := words }
  | pull (si ti : Nat) {dst src : Site} (hd : st.sites[si]? = some dst) (hs : st.sites[ti]? = some src) :
      Step st (.pull si ti) { st with sites := st.sites.set si (pullOp st.d src dst), tick := st.tick + 1 }

/-- the shape the local operations share in `step`: look the site up, apply the operation, store the result -/
theorem Step.lookup {st : State} {op : Op} {i : Nat} {f : Site → Option Site} {k : Site → State}
    (hk : ∀ s s1, st.sites[i]? = some s → f s = some s1 → Step st op (k s1)) :
    Step st op (match st.sites[i]? with
      | none => (st, Out.skip)
      | some s => match f s with
        | none => (st, Out.skip)
        | some s1 => (k s1, Out.ok)).1 := by
  split
  · exact .skip _
  · split
    · exact .skip _
    · exact hk _ _ (by assumption) (by assumption)

theorem Step.ite {st : State} {op : Op} {c : Prop} [Decidable c] {x y : State × Out} (hx : Step st op x.1)
    (hy : Step st op y.1) : Step st op (if c then x else y).1 := by
  split <;> assumption

theorem step_spec (st : State) (op : Op) : Step st op (step st op).1 := by
  cases op with
  | q si e t =>
    dsimp only [step]
    split
    · exact .skip _
    · exact .ite (.skip _) (.ite (.skip _) (.skip _))
  | qall si => dsimp only [step]; split <;> exact .skip _
  | qn si t | qnall si =>
    dsimp only [step, stepNested]
    exact .ite (.skip _) (by split <;> exact .skip _)
  | pull si ti =>
    dsimp only [step]
    split
    · rename_i dst src hd hs
      exact .ite (.skip _) (.pull si ti hd hs)
    · exact .skip _
  | new si n e text | newx si n e =>
    exact Step.lookup fun _ _ hs hl => .loc _ _ _ hs (localOp_spec hl) rfl
  | model si v | upd si n text | clr si n | del si n =>
    exact Step.lookup fun _ _ hs hl => .loc _ _ _ hs (localOp_spec hl) (List.append_nil _).symm
  | link si n m =>
    dsimp only [step, stepNested]
    exact .ite (.skip _) (Step.lookup fun _ _ hs hl => .loc _ _ _ hs (localOp_spec hl) (List.append_nil _).symm)

theorem Step.d {st st' : State} {op : Op} (h : Step st op st') : st'.d = st.d := by
  cases h <;> rfl

theorem step_d (st : State) (op : Op) : (step st op).1.d = st.d := (step_spec st op).d

theorem runOps_keeps {P : State → Prop} {g : State → List Op → Bool}
    (hstep : ∀ st op ops, P st → g st (op :: ops) = true → P (step st op).1 ∧ g (step st op).1 ops = true) :
    ∀ ops st, P st → g st ops = true → P (runOps st ops).1 := by
  intro ops
  induction ops with
  | nil => exact fun _ h _ => h
  | cons op rest ih =>
    intro st h hg
    obtain ⟨h', hg'⟩ := hstep st op rest h hg
    exact ih _ h' hg'

theorem Step.forall_sites {st st' : State} {op : Op} (h : Step st op st') {P : Site → Prop}
    (hP : ∀ s, s ∈ st.sites → P s)
    (hloc : ∀ s s1, st.sites[op.site]? = some s → LocalStep st.d st.usedRows s op s1 → P s → P s1)
    (hpull : ∀ dst src, dst ∈ st.sites → src ∈ st.sites → P dst → P (pullOp st.d src dst)) :
    ∀ s, s ∈ st'.sites → P s := by
  cases h with
  | skip => exact hP
  | loc tick used words hs hl hu =>
    exact forall_mem_set hP (hloc _ _ hs hl (hP _ (List.mem_of_getElem? hs))) _
  | pull si ti hd hs =>
    exact forall_mem_set hP (hpull _ _ (List.mem_of_getElem? hd) (List.mem_of_getElem? hs)
      (hP _ (List.mem_of_getElem? hd))) _

/-- the index of the site agrees with its rows; while deletions leave their index entries (a deletion is then not
    admissible) the site holds no deletion record: an ingestion would remove the row and leave its entries -/
def SiteOK (d : Defects) (s : Site) : Prop := SInv s ∧ (d.deleteLeavesIndex = true → s.tombs = [])

/-- the invariant of a run: every site agrees with its index, a row number means the same entity at every site,
    and every row number in use is recorded as used -/
structure GInv (st : State) : Prop where
  sites : ∀ s, s ∈ st.sites → SiteOK st.d s
  compat : ∀ s1, s1 ∈ st.sites → ∀ s2, s2 ∈ st.sites → Compat s1.rows s2.rows
  used : ∀ s, s ∈ st.sites → ∀ r, r ∈ s.rows → r.n ∈ st.usedRows

theorem ginv_init (d : Defects) (n : Nat) : GInv (init d n) :=
  ⟨forall_init_sites ⟨sinv_empty, fun _ => rfl⟩ d n, forall_init_sites (fun _ _ _ ha => absurd ha List.not_mem_nil) d n,
    forall_init_sites (fun _ hr => absurd hr List.not_mem_nil) d n⟩

/-- some site holds a row with the number and the entity of `x` -/
def Known (st : State) (x : Row) : Prop := ∃ y, y ∈ st.sites ∧ ∃ r, r ∈ y.rows ∧ r.n = x.n ∧ r.ent = x.ent

theorem ginv_set {st : State} (h : GInv st) (i : Nat) {s1 : Site} (hinv : SiteOK st.d s1) (fresh : List Nat)
    (hk : ∀ x, x ∈ s1.rows → Known st x ∨ (x.n ∈ fresh ∧ x.n ∉ st.usedRows))
    (tick : Nat) (words : List Word) (used : List Nat) (hu : used = st.usedRows ++ fresh) :
    GInv { st with sites := st.sites.set i s1, tick := tick, usedRows := used, words := words } := by
  subst hu
  obtain ⟨g1, g2, g3⟩ := h
  have hrow : ∀ x, x ∈ st.sites.set i s1 → ∀ r, r ∈ x.rows →
      Known st r ∨ (r ∈ s1.rows ∧ r.n ∈ fresh ∧ r.n ∉ st.usedRows) := by
    intro x hx r hr
    rcases List.mem_or_eq_of_mem_set hx with h' | rfl
    · exact .inl ⟨x, h', r, hr, rfl, rfl⟩
    · exact (hk r hr).imp id fun h => ⟨hr, h⟩
  refine ⟨forall_mem_set g1 hinv i, ?_, ?_⟩
  · intro x hx y hy a ha b hb hab
    rcases hrow x hx a ha with ⟨x', hx', a', ha', e1, e2⟩ | ⟨ha1, _, ha3⟩ <;>
      rcases hrow y hy b hb with ⟨y', hy', b', hb', f1, f2⟩ | ⟨hb1, _, hb3⟩
    · rw [← e2, ← f2]
      exact g2 x' hx' y' hy' a' ha' b' hb' (e1.trans (hab.trans f1.symm))
    · exact absurd (by rw [← hab, ← e1]; exact g3 x' hx' a' ha') hb3
    · exact absurd (by rw [hab, ← f1]; exact g3 y' hy' b' hb') ha3
    · exact hinv.1.rows.compat a ha1 b hb1 hab
  · intro x hx r hr
    rcases hrow x hx r hr with ⟨x', hx', r', hr', e1, _⟩ | ⟨_, h1, _⟩
    · rw [← e1]
      exact List.mem_append.mpr (.inl (g3 x' hx' r' hr'))
    · exact List.mem_append.mpr (.inr h1)

theorem LocalStep.rows {d : Defects} {used : List Nat} {s s1 : Site} {op : Op} (h : LocalStep d used s op s1) :
    ∀ x, x ∈ s1.rows → (∃ y, y ∈ s.rows ∧ y.n = x.n ∧ y.ent = x.ent) ∨ (x.n ∈ op.fresh ∧ x.n ∉ used) := by
  intro x hx
  cases h with
  | create row logged hf hu hr =>
    change x ∈ (writeInsert (s.indexOn row.ent) row s).rows at hx
    rcases mem_writeInsert_rows.mp hx with h' | rfl
    · exact .inl ⟨x, h', rfl, rfl⟩
    · exact .inr ⟨by rw [hf]; exact List.mem_singleton.mpr rfl, hu⟩
  | write old new refs logged ho hn he =>
    change x ∈ (writeUpdate d.deleteUnguarded (s.indexOn old.ent) old new (prevOf old) s).rows at hx
    rcases mem_writeUpdate_rows.mp hx with h' | rfl
    · exact .inl ⟨x, h'.1, rfl, rfl⟩
    · exact .inl ⟨old, ho, hn.symm, he.symm⟩
  | delete si old refs tombs logged ho => exact .inl ⟨x, (mem_eraseRow.mp hx).1, rfl, rfl⟩
  | _ => exact .inl ⟨x, hx, rfl, rfl⟩

theorem LocalStep.siteOK {st : State} {s s1 : Site} {op : Op} (h : LocalStep st.d st.usedRows s op s1)
    (hs : st.sites[op.site]? = some s) (ha : op.admissible st.d st = true) (hok : SiteOK st.d s) :
    SiteOK st.d s1 := by
  obtain ⟨hinv, ht⟩ := hok
  cases h with
  | declare => exact ⟨hinv, ht⟩
  | flag si v hi hr =>
    refine ⟨flagOnly_inv hinv _ ?_, ht⟩
    simp only [Op.site] at hs
    simp only [Op.admissible, hs, hi, hr, Bool.not_true, Bool.or_false, Bool.false_or, List.all_eq_true,
      beq_iff_eq] at ha
    exact ha
  | reindex => exact ⟨toggle_inv hinv _, ht⟩
  | create row logged hf hu hr => exact ⟨writeInsert_inv hinv row hr, ht⟩
  | write old new refs logged ho hn he =>
    exact ⟨writeUpdate_inv hinv st.d.deleteUnguarded old new ho hn he (prevOf old) (prevOf_ok old), ht⟩
  | same => exact ⟨hinv, ht⟩
  | delete si old refs tombs logged ho =>
    have hd : st.d.deleteLeavesIndex = false := by simpa [Op.admissible] using ha
    refine ⟨?_, fun h => absurd (hd.symm.trans h) Bool.false_ne_true⟩
    simp only [hd, Bool.false_eq_true, ↓reduceIte]
    exact del_inv hinv old ho

theorem ingestRow_tombs (d : Defects) (s : Site) (r : Row) : (ingestRow d s r).tombs = s.tombs := by
  unfold ingestRow
  split <;> rfl

theorem pullOp_tombs (d : Defects) (src dst : Site) (hn : src.tombs = []) : (pullOp d src dst).tombs = dst.tombs :=
  pullOp_keeps (P := fun s => s.tombs = dst.tombs) (fun s r _ h => (ingestRow_tombs d s r).trans h)
    (fun s e h => by rw [pullTombs_noTombs d e s hn]; exact h) (fun _ _ h => h) rfl

theorem Step.ginv {st st' : State} {op : Op} (h : Step st op st') (hg : GInv st)
    (ha : op.admissible st.d st = true) : GInv st' := by
  cases h with
  | skip => exact hg
  | loc tick used words hs hl hu =>
    have hsm := List.mem_of_getElem? hs
    refine ginv_set hg _ (hl.siteOK hs ha (hg.sites _ hsm)) _ (fun x hx => ?_) tick words used hu
    exact (hl.rows x hx).imp (fun ⟨y, hy, e⟩ => ⟨_, hsm, y, hy, e⟩) id
  | @pull si ti dst src hd hs =>
    have hdm := List.mem_of_getElem? hd
    have hsm := List.mem_of_getElem? hs
    obtain ⟨hdst, tdst⟩ := hg.sites dst hdm
    obtain ⟨hsrc, tsrc⟩ := hg.sites src hsm
    have hd2 : st.d.ingestUnindexed = false := by simpa [Op.admissible] using ha
    obtain ⟨a1, a3⟩ := pullOp_inv st.d src tsrc hd2 hsrc.rows hdst (hg.compat dst hdm src hsm)
    refine ginv_set hg si ⟨a1, fun hdl => (pullOp_tombs st.d src dst (tsrc hdl)).trans (tdst hdl)⟩ []
      (fun x hx => .inl ?_) _ _ _ (List.append_nil _).symm
    obtain ⟨y, hy, e⟩ := a3 x hx
    rcases List.mem_append.mp hy with h' | h'
    · exact ⟨dst, hdm, y, h', e⟩
    · exact ⟨src, hsm, y, h', e⟩

theorem GInv.sinv {st : State} (h : GInv st) {s : Site} (hs : s ∈ st.sites) : SInv s := (h.sites s hs).1

theorem GInv.runOps {st : State} (h : GInv st) {ops : List Op} (ha : admissibleRun st ops = true) :
    GInv (runOps st ops).1 := by
  refine runOps_keeps (P := GInv) (g := admissibleRun) (fun st op rest h hg => ?_) ops st h ha
  simp only [admissibleRun, Bool.and_eq_true] at hg
  exact ⟨(step_spec st op).ginv h hg.1, hg.2⟩

theorem Op.admissible_of (d : Defects) (st : State) (op : Op)
    (h1 : op.localOnly = true ∨ (d.deleteLeavesIndex = false ∧ d.ingestUnindexed = false))
    (h2 : d.toggleIgnored = true ∨ d.toggleNoReindex = false) : op.admissible d st = true := by
  unfold Op.admissible
  split
  · rcases h1 with h | h
    · cases h
    · simp [h.1]
  · rcases h1 with h | h
    · cases h
    · simp [h.2]
  · split
    · rfl
    · rcases h2 with h | h <;> simp [h]
  · rfl

/-- `admissibleRun` and `flagSafeRun` test every operation in the state it meets: a test that passes in every
    state with the switches `d` passes along every run -/
theorem guardRun_of {c : Defects → State → Op → Bool} {g : State → List Op → Bool} (hnil : ∀ st, g st [] = true)
    (hcons : ∀ st op ops, g st (op :: ops) = (c st.d st op && g (step st op).1 ops)) {d : Defects} (ops : List Op) :
    (∀ st op, st.d = d → op ∈ ops → c d st op = true) → ∀ st, st.d = d → g st ops = true := by
  induction ops with
  | nil => exact fun _ st _ => hnil st
  | cons op rest ih =>
    intro hop st hd
    rw [hcons, Bool.and_eq_true]
    exact ⟨hd ▸ hop st op hd List.mem_cons_self,
      ih (fun st' o h ho => hop st' o h (List.mem_cons_of_mem _ ho)) _ ((step_d st op).trans hd)⟩

/-- every history is admissible once the deletion and the ingestion are repaired (or do not occur) and a model version
    is either ignored or re-indexes — whatever `deleteUnguarded` is -/
theorem admissibleRun_of_switches {d : Defects} {ops : List Op}
    (h1 : (∀ op, op ∈ ops → op.localOnly = true) ∨ (d.deleteLeavesIndex = false ∧ d.ingestUnindexed = false))
    (h2 : d.toggleIgnored = true ∨ d.toggleNoReindex = false) : ∀ st, st.d = d → admissibleRun st ops = true :=
  guardRun_of (c := Op.admissible) (fun _ => rfl) (fun _ _ _ => rfl) ops fun st op _ ho =>
    Op.admissible_of d st op (h1.imp_left fun h => h op ho) h2

theorem admissibleRun_none (ops : List Op) : ∀ (st : State), st.d = Defects.none → admissibleRun st ops = true :=
  admissibleRun_of_switches (.inr ⟨rfl, rfl⟩) (.inr rfl)

/-- the guard of `C17_partial`: local operations are admissible while later model versions are ignored; where they
    are followed, admissibility is the second alternative itself -/
theorem admissibleRun_partial {d : Defects} {n : Nat} {ops : List Op} (hg : ∀ op, op ∈ ops → op.localOnly = true)
    (hm : d.toggleIgnored = true ∨ admissibleRun (init d n) ops = true) : admissibleRun (init d n) ops = true :=
  hm.elim (fun h => admissibleRun_of_switches (.inl hg) (.inl h) _ rfl) id

def FlagOK (s : Site) : Prop := s.indexOn = declaredOn s.declared

theorem ingestRow_flags (d : Defects) (s : Site) (r : Row) :
    (ingestRow d s r).indexOn = s.indexOn ∧ (ingestRow d s r).declared = s.declared := by
  unfold ingestRow
  split <;> exact ⟨rfl, rfl⟩

theorem pullOp_flags (d : Defects) (src dst : Site) :
    (pullOp d src dst).indexOn = dst.indexOn ∧ (pullOp d src dst).declared = dst.declared :=
  pullOp_keeps (P := fun s => s.indexOn = dst.indexOn ∧ s.declared = dst.declared)
    (fun s r _ h => ⟨(ingestRow_flags d s r).1.trans h.1, (ingestRow_flags d s r).2.trans h.2⟩)
    (fun _ _ h => h) (fun _ _ h => h) ⟨rfl, rfl⟩

/-- only a model version touches the flags, and one that is ignored must declare what is in force -/
theorem LocalStep.flagOK {d : Defects} {used : List Nat} {s s1 : Site} {op : Op} (h : LocalStep d used s op s1)
    (hs : FlagOK s) (hsafe : ∀ si v, op = .model si v → d.toggleIgnored = true → v = s.declared) : FlagOK s1 := by
  cases h with
  | declare si v hi =>
    have := hsafe si v rfl hi
    subst this
    exact hs
  | flag => exact rfl
  | reindex => exact rfl
  | _ => exact hs

theorem step_flag (st : State) (h : ∀ s, s ∈ st.sites → FlagOK s) (op : Op)
    (hf : op.flagSafe st.d st = true) :
    ∀ s, s ∈ (step st op).1.sites → FlagOK s := by
  refine (step_spec st op).forall_sites h (fun s s1 hs hl hok => hl.flagOK hok fun si v e hi => ?_)
    fun dst src _ _ hok => ?_
  · subst e
    simp only [Op.site] at hs
    simpa [Op.flagSafe, hs, hi] using hf
  · unfold FlagOK
    rw [(pullOp_flags st.d src dst).1, (pullOp_flags st.d src dst).2]
    exact hok

theorem flagOK_runOps {st : State} (h : ∀ s, s ∈ st.sites → FlagOK s) {ops : List Op}
    (hf : flagSafeRun st ops = true) : ∀ s, s ∈ (runOps st ops).1.sites → FlagOK s := by
  refine runOps_keeps (P := fun st => ∀ s, s ∈ st.sites → FlagOK s) (g := flagSafeRun)
    (fun st op rest h hg => ?_) ops st h hf
  simp only [flagSafeRun, Bool.and_eq_true] at hg
  exact ⟨step_flag st h op hg.1, hg.2⟩

theorem flagOK_init (d : Defects) (n : Nat) : ∀ s, s ∈ (init d n).sites → FlagOK s :=
  forall_init_sites (P := FlagOK) rfl d n

theorem Op.flagSafe_of (d : Defects) (st : State) (op : Op) (h : d.toggleIgnored = false) :
    op.flagSafe d st = true := by
  unfold Op.flagSafe
  split
  · split
    · rfl
    · simp [h]
  · rfl

theorem flagSafeRun_of_followed (ops : List Op) (st : State) (h : st.d.toggleIgnored = false) :
    flagSafeRun st ops = true :=
  guardRun_of (c := Op.flagSafe) (fun _ => rfl) (fun _ _ _ => rfl) ops
    (fun st' op hd _ => Op.flagSafe_of _ st' op (hd ▸ h)) st rfl

end Discret.Fts
