import DiscretModel.Model.Fts
/-
`extract_json` (`node.rs:1070-1091`) as modelled in `Model/Fts.lean`: the text is the strings of the value, in
order, each followed by a space. Core Lean only.
-/
namespace Discret.Fts

mutual
theorem extractJson_eq : ∀ (j : Json), extractJson j = (strings j).flatMap fun s => s ++ [' ']
  | .null | .bool _ | .num _ => rfl
  | .str s => by simp [extractJson, strings]
  | .arr items => extractList_eq items
  | .obj fields => extractFields_eq fields
theorem extractList_eq : ∀ (l : JList), extractList l = (stringsList l).flatMap fun s => s ++ [' ']
  | .nil => rfl
  | .cons h t => by
    simp only [extractList, stringsList, List.flatMap_append]
    rw [extractJson_eq h, extractList_eq t]
theorem extractFields_eq : ∀ (l : JFields), extractFields l = (stringsFields l).flatMap fun s => s ++ [' ']
  | .nil => rfl
  | .cons _ v t => by
    simp only [extractFields, stringsFields, List.flatMap_append]
    rw [extractJson_eq v, extractFields_eq t]
end

/-- numbers, booleans, null and object keys never reach the text -/
theorem extractJson_nil_of_no_strings (j : Json) (h : strings j = []) : extractJson j = [] := by
  rw [extractJson_eq, h]; rfl

end Discret.Fts
