import DiscretModel.Lemmas.SyncMarks
/-
C09 for the deletion query with several reference-deletion entries (`opUnrefs`, `DeletionQuery::build` looping over
its entries): every `(room, entity, day)` whose stored signatures change is marked — the day each re-dated source
row leaves as well as the day it arrives on — so the invariant of the daily log is kept.
-/
namespace Discret.Sync
open Discret.DailyLog

theorem covers_trans {r1 r2 r3 : Replica} {m1 m2 : List Key} (h1 : Covers r1 r2 m1) (h2 : Covers r2 r3 m2) :
    Covers r1 r3 (m1 ++ m2) := by
  intro room ent day hne
  by_cases e : r2.sigs room ent day = r1.sigs room ent day
  · exact List.mem_append_right _ (h2 room ent day (by rw [e]; exact hne))
  · exact List.mem_append_left _ (h1 room ent day e)

/-- the entries of a deletion query applied one after the other: all that matters of the step of `opUnrefs` is that it
    passes on the state of `opUnref` and appends its marks (results and refusals play no part) -/
theorem foldl_opUnref_covers {d : Defects} (hd : d.refDeletionUnmarked = false) (rights : Rights) (snap : Replica)
    (p now : Nat) {step : Effect × Bool → UnrefEntry → Effect × Bool}
    (hstep : ∀ acc e, (step acc e).1.cur = (opUnref d rights snap acc.1.cur p e.row e.to e.sig e.dsig now).cur ∧
      (step acc e).1.marks = acc.1.marks ++ (opUnref d rights snap acc.1.cur p e.row e.to e.sig e.dsig now).marks)
    (base : Replica) (es : List UnrefEntry) (acc : Effect × Bool)
    (hrows : (es.map (·.row)).Nodup) (hn : IdsNodup acc.1.cur) (hc : Covers base acc.1.cur acc.1.marks)
    (hlog : acc.1.cur.log = base.log)
    (hs : ∀ e ∈ es, ∀ old, snap.findNode e.row 0 = some old → old ∈ acc.1.cur.nodes) :
    Covers base (es.foldl step acc).1.cur (es.foldl step acc).1.marks ∧ (es.foldl step acc).1.cur.log = base.log := by
  induction es generalizing acc with
  | nil => exact ⟨hc, hlog⟩
  | cons e t ih =>
    rw [List.foldl_cons]
    simp only [List.map_cons, List.nodup_cons] at hrows
    obtain ⟨ecur, emarks⟩ := hstep acc e
    obtain ⟨n0, n3, n1, n2⟩ := opUnref_covers hn hd rights p e.row e.to e.sig e.dsig now (hs e List.mem_cons_self)
    refine ih _ hrows.2 ?_ ?_ ?_ ?_
    · show (List.map _ _).Nodup
      rw [ecur, n1]; exact hn
    · rw [ecur, emarks]; exact covers_trans hc n0
    · rw [ecur]; exact n3.trans hlog
    · intro e' he' old ho
      have hmem := hs e' (List.mem_cons_of_mem _ he') old ho
      rw [ecur]
      refine n2 old hmem ?_
      obtain ⟨_, hid, _⟩ := findNode_some ho
      rw [hid]
      intro eq
      exact hrows.1 (List.mem_map.mpr ⟨e', he', eq⟩)

/-- **C09 (one deletion query with several reference-deletion entries).** Distinct source rows, planned on the state
    they are applied to. -/
theorem opUnrefs_winv {d : Defects} (hd : d.refDeletionUnmarked = false) (rights : Rights) {cur : Replica}
    (hn : IdsNodup cur) (h : WInv cur.sigs noPending cur.log) (p now : Nat) (es : List UnrefEntry)
    (hrows : (es.map (·.row)).Nodup) :
    WInv (opUnrefs d rights cur cur p now es).cur.sigs noPending
      (markAll (opUnrefs d rights cur cur p now es).marks (opUnrefs d rights cur cur p now es).cur.log) := by
  unfold opUnrefs
  simp only
  split
  · exact winv_of_covers h (covers_refl _ _) rfl
  · refine (foldl_opUnref_covers hd rights cur p now ?_ cur es ({ cur, marks := [], res := .okNothing }, false) hrows hn
      (covers_refl _ _) rfl fun e _ old ho => (findNode_some ho).1).elim fun hc hl => winv_of_covers h hc hl
    exact fun _ _ => ⟨rfl, rfl⟩

end Discret.Sync
