/-
Facts about `if … then … else`, folds, lists read and written by a key and insertion sort that several parts of the
development use; nothing here mentions the model.
-/
namespace Discret

theorem ite_cases {γ : Type} {p : Prop} [Decidable p] {x y z : γ} (h : (if p then x else y) = z) :
    p ∧ x = z ∨ ¬p ∧ y = z := by
  by_cases hp : p
  · exact Or.inl ⟨hp, (if_pos hp).symm.trans h⟩
  · exact Or.inr ⟨hp, (if_neg hp).symm.trans h⟩

theorem of_ite_ne {γ : Type} {p : Prop} [Decidable p] {x y z : γ} (h : (if p then x else y) = z) (hne : x ≠ z) :
    ¬p ∧ y = z :=
  (ite_cases h).resolve_left fun hx => hne hx.2

theorem of_ite_ne_right {γ : Type} {p : Prop} [Decidable p] {x y z : γ} (h : (if p then x else y) = z) (hne : y ≠ z) :
    p ∧ x = z :=
  (ite_cases h).resolve_right fun hy => hne hy.2

theorem foldl_invariant {α β : Type} (P : β → Prop) {f : β → α → β} {l : List α} {b : β} (hb : P b)
    (hf : ∀ b a, a ∈ l → P b → P (f b a)) : P (l.foldl f b) :=
  List.foldlRecOn l f hb fun b hb a ha => hf b a ha hb

/-- a list `tbl` of the state is written by a fold: what is in it afterwards was there before or was put there by the
    step of one of the elements folded over -/
theorem foldl_new {σ ρ α : Type} {step : σ → ρ → σ} (tbl : σ → List α) {P : ρ → α → Prop} {L : List ρ} {s : σ} {x : α}
    (hx : x ∈ tbl (L.foldl step s)) (hstep : ∀ st r x, x ∈ tbl (step st r) → x ∈ tbl st ∨ P r x) :
    x ∈ tbl s ∨ ∃ r ∈ L, P r x :=
  foldl_invariant (fun st => ∀ x ∈ tbl st, x ∈ tbl s ∨ ∃ r ∈ L, P r x) (fun _ => Or.inl)
    (fun st r hr ih x hx => (hstep st r x hx).elim (ih x) fun hp => Or.inr ⟨r, hr, hp⟩) x hx

theorem eq_of_nodup_map {α β : Type} {f : α → β} {l : List α} (h : (l.map f).Nodup) {a b : α}
    (ha : a ∈ l) (hb : b ∈ l) (e : f a = f b) : a = b := by
  induction l with
  | nil => cases ha
  | cons x t ih =>
    rw [List.map_cons, List.nodup_cons] at h
    rcases List.mem_cons.mp ha with ea | ha <;> rcases List.mem_cons.mp hb with eb | hb
    · exact ea.trans eb.symm
    · exact absurd (by rw [← ea, e]; exact List.mem_map_of_mem hb) h.1
    · exact absurd (by rw [← eb, ← e]; exact List.mem_map_of_mem ha) h.1
    · exact ih h.2 ha hb

theorem find_of_mem_nodup {α κ : Type} [DecidableEq κ] (key : α → κ) {l : List α} (hn : (l.map key).Nodup) {a : α}
    (ha : a ∈ l) : l.find? (fun y => key y = key a) = some a := by
  induction l with
  | nil => cases ha
  | cons x t ih =>
    rw [List.map_cons, List.nodup_cons] at hn
    rcases List.mem_cons.mp ha with rfl | h
    · exact List.find?_cons_of_pos (decide_eq_true rfl)
    · rw [List.find?_cons_of_neg fun e => hn.1 (List.mem_map.mpr ⟨a, h, (of_decide_eq_true e).symm⟩)]
      exact ih hn.2 h

section keyed
variable {α κ : Type} [DecidableEq κ] (key : α → κ)

theorem find_key_some {key : α → κ} {l : List α} {k : κ} {x : α} (h : l.find? (fun y => key y = k) = some x) :
    x ∈ l ∧ key x = k :=
  ⟨List.mem_of_find?_eq_some h, of_decide_eq_true (List.find?_some (p := fun y => decide (key y = k)) h)⟩

theorem find_key_none {key : α → κ} {l : List α} {k : κ} (h : l.find? (fun y => key y = k) = none) :
    ∀ y ∈ l, key y ≠ k :=
  fun y hy e => List.find?_eq_none.mp h y hy (decide_eq_true e)

theorem find_key_cons_eq {a : α} {k : κ} (l : List α) (h : key a = k) :
    (a :: l).find? (fun y => key y = k) = some a :=
  List.find?_cons_of_pos (decide_eq_true h)

theorem find_key_cons_ne {a : α} {k : κ} (l : List α) (h : key a ≠ k) :
    (a :: l).find? (fun y => key y = k) = l.find? (fun y => key y = k) :=
  List.find?_cons_of_neg fun e => h (of_decide_eq_true e)

/-- writing `x` over the elements that have its key changes no key, so a lookup by key sees the old list and then
    the replacement -/
theorem find_key_replace (l : List α) (x : α) (k : κ) :
    (l.map fun y => if key y = key x then x else y).find? (fun y => key y = k) =
      (l.find? (fun y => key y = k)).map fun y => if key y = key x then x else y := by
  rw [List.find?_map]
  refine congrArg (fun p => Option.map _ (List.find? p l)) (funext fun y => ?_)
  show decide (key (if key y = key x then x else y) = k) = decide (key y = k)
  by_cases e : key y = key x
  · rw [if_pos e, e]
  · rw [if_neg e]

/-- "replace the element with the key of `x`, or append `x`": afterwards the key of `x` finds `x` and every other key
    finds what it found -/
theorem find_key_upsert (l : List α) (x : α) (k : κ) :
    (if l.any (fun y => key y = key x) then l.map fun y => if key y = key x then x else y
      else l ++ [x]).find? (fun y => key y = k) =
      if k = key x then some x else l.find? (fun y => key y = k) := by
  by_cases hany : l.any (fun y => key y = key x) = true
  · rw [if_pos hany, find_key_replace]
    obtain ⟨y, hy, hye⟩ := List.any_eq_true.mp hany
    cases hf : l.find? (fun y => key y = k) with
    | none =>
      have hne : k ≠ key x := fun e => List.find?_eq_none.mp hf y hy (e ▸ hye)
      rw [if_neg hne]; rfl
    | some z =>
      have hz : key z = k := (find_key_some hf).2
      by_cases hr : k = key x
      · rw [if_pos hr]; exact congrArg some (if_pos (hz.trans hr))
      · rw [if_neg hr]; exact congrArg some (if_neg fun e => hr (hz.symm.trans e))
  · rw [if_neg hany, List.find?_append]
    by_cases hr : k = key x
    · have hnone : l.find? (fun y => key y = k) = none :=
        List.find?_eq_none.mpr fun y hy hye => hany (List.any_eq_true.mpr ⟨y, hy, hr ▸ hye⟩)
      rw [if_pos hr, hnone, find_key_cons_eq key [] hr.symm]; rfl
    · rw [if_neg hr, find_key_cons_ne key [] (Ne.symm hr)]
      exact Option.or_none

theorem map_key_replace (l : List α) (x : α) :
    (l.map fun y => if key y = key x then x else y).map key = l.map key := by
  rw [List.map_map]
  refine List.map_congr_left fun y _ => ?_
  show key (if key y = key x then x else y) = key y
  split
  · exact (‹key y = key x›).symm
  · rfl

theorem map_replace_of_ne {l : List α} {k : κ} (b : α) (h : ∀ y ∈ l, key y ≠ k) :
    (l.map fun x => if key x = k then b else x) = l := by
  conv => rhs; rw [← List.map_id l]
  exact List.map_congr_left fun y hy => if_neg (h y hy)

theorem nodup_key_append {l : List α} (hn : (l.map key).Nodup) {x : α}
    (hx : l.any (fun y => key y = key x) = false) : ((l ++ [x]).map key).Nodup := by
  rw [List.map_append]
  refine List.nodup_append.mpr ⟨hn, List.pairwise_singleton _ _, fun a ha b hb e => ?_⟩
  obtain ⟨z, hz, rfl⟩ := List.mem_map.mp ha
  cases List.mem_singleton.mp hb
  exact Bool.false_ne_true (hx ▸ List.any_eq_true.mpr ⟨z, hz, decide_eq_true e⟩)

end keyed

theorem dropLast_append_getLast? {α : Type} (l : List α) : l.dropLast ++ l.getLast?.toList = l := by
  cases h : l.getLast? with
  | none => rw [List.getLast?_eq_none_iff.mp h]; rfl
  | some s =>
    obtain ⟨ys, rfl⟩ := List.getLast?_eq_some_iff.mp h
    simp

/-- `x` goes in front of the first `y` with `le x y`; the sorts of the model are this one up to the test they spell out -/
def ordInsert {α : Type} (le : α → α → Bool) (x : α) : List α → List α
  | [] => [x]
  | y :: t => if le x y then x :: y :: t else y :: ordInsert le x t

def insertionSort {α : Type} (le : α → α → Bool) (l : List α) : List α := l.foldr (ordInsert le) []

theorem ordInsert_perm {α : Type} (le : α → α → Bool) (x : α) (l : List α) : (ordInsert le x l).Perm (x :: l) := by
  induction l with
  | nil => exact .refl _
  | cons y t ih =>
    simp only [ordInsert]
    split
    · exact .refl _
    · exact (ih.cons y).trans (.swap x y t)

theorem insertionSort_perm {α : Type} (le : α → α → Bool) (l : List α) : (insertionSort le l).Perm l := by
  induction l with
  | nil => exact .refl _
  | cons a t ih => exact (ordInsert_perm le a _).trans (ih.cons a)

theorem ordInsert_sorted {α : Type} (le : α → α → Bool) (htot : ∀ a b, le a b = false → le b a = true)
    (htr : ∀ a b c, le a b = true → le b c = true → le a c = true) (x : α) {l : List α}
    (h : l.Pairwise fun a b => le a b = true) : (ordInsert le x l).Pairwise fun a b => le a b = true := by
  induction l with
  | nil => exact List.pairwise_singleton _ _
  | cons y t ih =>
    obtain ⟨hy, ht⟩ := List.pairwise_cons.mp h
    rw [ordInsert]
    cases hxy : le x y with
    | true => exact List.pairwise_cons.mpr ⟨List.forall_mem_cons.mpr ⟨hxy, fun z hz => htr _ _ _ hxy (hy z hz)⟩, h⟩
    | false =>
      refine List.pairwise_cons.mpr ⟨fun z hz => ?_, ih ht⟩
      rcases List.mem_cons.mp ((ordInsert_perm le x t).mem_iff.mp hz) with rfl | hz
      · exact htot _ _ hxy
      · exact hy z hz

theorem insertionSort_sorted {α : Type} (le : α → α → Bool) (htot : ∀ a b, le a b = false → le b a = true)
    (htr : ∀ a b c, le a b = true → le b c = true → le a c = true) (l : List α) :
    (insertionSort le l).Pairwise fun a b => le a b = true := by
  induction l with
  | nil => exact List.Pairwise.nil
  | cons x t ih => exact ordInsert_sorted le htot htr x ih

end Discret
