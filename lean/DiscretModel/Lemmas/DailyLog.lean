import DiscretModel.Model.DailyLog
import DiscretModel.Lemmas.Basic
/-
Lemmas about the daily-log model: the specification rows, marks, the invariant, and what the loop of
`DailyLogsUpdate::compute` does row by row, group by group, for every version of the code. The recomputation with
the repairs in is in `DailyLogRecompute.lean`; the property theorems are in `Props/C09.lean`.
-/
namespace Discret.DailyLog

def specRow (sigs : Content) (room ent : Nat) (prev : Option (Hash × Option Hash)) (day : Nat) : DayRow :=
  { day, count := (sigs room ent day).length, daily := dailyOf (sigs room ent day),
    hist := nextHist prev (dailyOf (sigs room ent day)), dirty := false }

/-- what the next specification row chains to -/
def DayRow.state (r : DayRow) : Option (Hash × Option Hash) := r.hist.map fun h => (h, r.daily)

theorem specRowsFrom_cons (sigs : Content) (room ent : Nat) (prev : Option (Hash × Option Hash))
    (day : Nat) (t : List Nat) :
    specRowsFrom sigs room ent prev (day :: t) =
      specRow sigs room ent prev day :: specRowsFrom sigs room ent (specRow sigs room ent prev day).state t := rfl

def stateOf (prev : Option (Hash × Option Hash)) (rows : List DayRow) : Option (Hash × Option Hash) :=
  match rows.getLast? with
  | none => prev
  | some s => s.state

theorem stateOf_cons (prev : Option (Hash × Option Hash)) (r : DayRow) (t : List DayRow) :
    stateOf prev (r :: t) = stateOf r.state t := by
  unfold stateOf
  rw [List.getLast?_cons]
  cases t.getLast? <;> rfl

theorem specRowsFrom_append (sigs : Content) (room ent : Nat) (prev : Option (Hash × Option Hash))
    (l1 l2 : List Nat) :
    specRowsFrom sigs room ent prev (l1 ++ l2) =
      specRowsFrom sigs room ent prev l1 ++
        specRowsFrom sigs room ent (stateOf prev (specRowsFrom sigs room ent prev l1)) l2 := by
  induction l1 generalizing prev with
  | nil => rfl
  | cons d t ih => rw [List.cons_append, specRowsFrom_cons, specRowsFrom_cons, ih, stateOf_cons, List.cons_append]

theorem specRowsFrom_days (sigs : Content) (room ent : Nat) (prev : Option (Hash × Option Hash))
    (l : List Nat) : (specRowsFrom sigs room ent prev l).map (·.day) = l := by
  induction l generalizing prev with
  | nil => rfl
  | cons d t ih => rw [specRowsFrom_cons, List.map_cons, ih]; rfl

theorem specRowsFrom_mem {sigs : Content} {room ent : Nat} {x : DayRow} (l : List Nat)
    (prev : Option (Hash × Option Hash)) (hx : x ∈ specRowsFrom sigs room ent prev l) :
    x.dirty = false ∧ x.count = (sigs room ent x.day).length ∧ x.daily = dailyOf (sigs room ent x.day) := by
  induction l generalizing prev with
  | nil => cases hx
  | cons dd t ih =>
    rw [specRowsFrom_cons] at hx
    rcases List.mem_cons.mp hx with e | e
    · rw [e]; exact ⟨rfl, rfl, rfl⟩
    · exact ih _ e

theorem specRowsFrom_congr {sigs sigs' : Content} {room ent : Nat} (prev : Option (Hash × Option Hash))
    (l : List Nat) (h : ∀ d ∈ l, (sigs' room ent d).length = (sigs room ent d).length ∧
      dailyOf (sigs' room ent d) = dailyOf (sigs room ent d)) :
    specRowsFrom sigs' room ent prev l = specRowsFrom sigs room ent prev l := by
  induction l generalizing prev with
  | nil => rfl
  | cons d t ih =>
    obtain ⟨h1, h2⟩ := h d List.mem_cons_self
    simp only [specRowsFrom, h1, h2]
    rw [ih _ (fun x hx => h x (List.mem_cons_of_mem _ hx))]

theorem specRows_prefix {sigs : Content} {room ent : Nat} {days : List Nat} {pre post : List DayRow}
    (h : specRows sigs room ent days = pre ++ post) :
    pre = specRows sigs room ent (pre.map (·.day)) := by
  have hd : days = pre.map (·.day) ++ post.map (·.day) := by
    have := congrArg (List.map (·.day)) h
    rw [specRows, specRowsFrom_days] at this
    simpa using this
  rw [hd, specRows, specRowsFrom_append] at h
  have hl : (specRowsFrom sigs room ent none (pre.map (·.day))).length = pre.length := by
    have := congrArg List.length (specRowsFrom_days sigs room ent none (pre.map (·.day)))
    simpa using this
  exact ((List.append_inj h hl).1).symm

theorem specRows_nil (sigs : Content) (room ent : Nat) : specRows sigs room ent [] = [] := rfl

def RowsSorted (rows : List DayRow) : Prop := rows.Pairwise fun a b => a.day < b.day

theorem rowsSorted_iff (l : List DayRow) : RowsSorted l ↔ (l.map (·.day)).Pairwise (· < ·) := by
  unfold RowsSorted; rw [List.pairwise_map]

def freshRow (day : Nat) : DayRow := { day, count := 0, daily := none, hist := none, dirty := true }

theorem pairwise_insert {α : Type} {R : α → α → Prop} {A B : List α} {o : Option α} {m : α}
    (h : (A ++ (o.toList ++ B)).Pairwise R) (hA : ∀ a ∈ A, R a m) (hB : ∀ b ∈ B, R m b) :
    (A ++ m :: B).Pairwise R := by
  obtain ⟨a, b, c⟩ := List.pairwise_append.mp h
  refine List.pairwise_append.mpr
    ⟨a, List.pairwise_cons.mpr ⟨hB, (List.pairwise_append.mp b).2.1⟩, fun x hx y hy => ?_⟩
  rcases List.mem_cons.mp hy with e | e
  · rw [e]; exact hA x hx
  · exact c x hx y (List.mem_append_right _ e)

theorem markRows_split (day : Nat) (rows : List DayRow) (hs : RowsSorted rows) :
    ∃ (A B : List DayRow) (o : Option DayRow) (m : DayRow), rows = A ++ (o.toList ++ B) ∧
      markRows day rows = A ++ m :: B ∧ m.day = day ∧ m.dirty = true ∧
      (∀ r0 ∈ o, r0.day = day) ∧ (∀ a ∈ A, a.day < day) ∧ (∀ b ∈ B, day < b.day) := by
  induction rows with
  | nil => exact ⟨[], [], none, freshRow day, rfl, rfl, rfl, rfl, (fun _ h => nomatch h), (fun _ h => nomatch h),
      (fun _ h => nomatch h)⟩
  | cons r t ih =>
    obtain ⟨hrt, hs'⟩ := List.pairwise_cons.mp hs
    rcases Nat.lt_trichotomy day r.day with hlt | heq | hgt
    · refine ⟨[], r :: t, none, freshRow day, rfl, ?_, rfl, rfl, (fun _ h => nomatch h), (fun _ h => nomatch h),
        fun b hb => ?_⟩
      · rw [markRows, if_pos hlt]; rfl
      · rcases List.mem_cons.mp hb with e | e
        · rw [e]; exact hlt
        · exact Nat.lt_trans hlt (hrt b e)
    · refine ⟨[], t, some r, { r with daily := none, dirty := true }, rfl, ?_, heq.symm, rfl,
        fun r0 h => Option.some.inj (Option.mem_def.mp h) ▸ heq.symm, (fun _ h => nomatch h),
        fun b hb => heq ▸ hrt b hb⟩
      rw [markRows, if_neg (Nat.not_lt.mpr (Nat.le_of_eq heq.symm)), if_pos heq]; rfl
    · obtain ⟨A, B, o, m, h0, h1, h2, h3, h4, h5, h6⟩ := ih hs'
      refine ⟨r :: A, B, o, m, congrArg (r :: ·) h0, ?_, h2, h3, h4, fun a ha => ?_, h6⟩
      · rw [markRows, if_neg (Nat.lt_asymm hgt), if_neg (Nat.ne_of_gt hgt), h1]; rfl
      · rcases List.mem_cons.mp ha with e | e
        · rw [e]; exact hgt
        · exact h5 a e

theorem markRows_sorted {day : Nat} {rows : List DayRow} (hs : RowsSorted rows) :
    RowsSorted (markRows day rows) := by
  obtain ⟨A, B, o, m, h0, h1, h2, _, _, h5, h6⟩ := markRows_split day rows hs
  rw [h1]
  exact pairwise_insert (h0 ▸ hs) (fun a ha => h2 ▸ h5 a ha) (fun b hb => h2 ▸ h6 b hb)

def keyLt (r1 e1 r2 e2 : Nat) : Prop := r1 < r2 ∨ (r1 = r2 ∧ e1 < e2)

def GroupsSorted (log : Log) : Prop := log.Pairwise fun a b => keyLt a.room a.ent b.room b.ent

theorem grpLt_iff (room ent : Nat) (g : Group) : grpLt room ent g = true ↔ keyLt room ent g.room g.ent := by
  simp [grpLt, keyLt]

theorem keyLt_trans {a b c d e f : Nat} (h1 : keyLt a b c d) (h2 : keyLt c d e f) : keyLt a b e f := by
  rcases h1 with h1 | ⟨h1, h1'⟩ <;> rcases h2 with h2 | ⟨h2, h2'⟩
  · exact Or.inl (Nat.lt_trans h1 h2)
  · exact Or.inl (h2 ▸ h1)
  · exact Or.inl (h1 ▸ h2)
  · exact Or.inr ⟨h1.trans h2, Nat.lt_trans h1' h2'⟩

theorem keyLt_irrefl (a b : Nat) : ¬ keyLt a b a b := by unfold keyLt; omega

theorem keyLt_total {a b c d : Nat} (h1 : ¬ keyLt a b c d) (h2 : ¬ (a = c ∧ b = d)) : keyLt c d a b := by
  rcases Nat.lt_trichotomy a c with h | h | h
  · exact absurd (Or.inl h) h1
  · rcases Nat.lt_trichotomy b d with h' | h' | h'
    · exact absurd (Or.inr ⟨h, h'⟩) h1
    · exact absurd ⟨h, h'⟩ h2
    · exact Or.inr ⟨h.symm, h'⟩
  · exact Or.inl h

theorem mark_split (k : Key) (log : Log) (hs : GroupsSorted log) :
    ∃ (A B : Log) (o : Option Group), log = A ++ (o.toList ++ B) ∧
      mark k log = A ++ { room := k.room, ent := k.ent, rows := markRows k.day ((o.map (·.rows)).getD []) } :: B ∧
      (∀ g0 ∈ o, g0.room = k.room ∧ g0.ent = k.ent) ∧
      (∀ a ∈ A, keyLt a.room a.ent k.room k.ent) ∧ (∀ b ∈ B, keyLt k.room k.ent b.room b.ent) := by
  induction log with
  | nil => exact ⟨[], [], none, rfl, rfl, (fun _ h => nomatch h), (fun _ h => nomatch h), (fun _ h => nomatch h)⟩
  | cons g t ih =>
    obtain ⟨hgt, hs'⟩ := List.pairwise_cons.mp hs
    rw [mark]
    by_cases hlt : grpLt k.room k.ent g = true
    · rw [if_pos hlt]
      have hlt' := (grpLt_iff _ _ _).mp hlt
      refine ⟨[], g :: t, none, rfl, rfl, (fun _ h => nomatch h), (fun _ h => nomatch h), fun b hb => ?_⟩
      rcases List.mem_cons.mp hb with e | e
      · rw [e]; exact hlt'
      · exact keyLt_trans hlt' (hgt b e)
    · rw [if_neg hlt]
      by_cases heq : k.room = g.room ∧ k.ent = g.ent
      · rw [if_pos heq]
        refine ⟨[], t, some g, rfl, by rw [heq.1, heq.2]; rfl,
          fun g0 h => Option.some.inj (Option.mem_def.mp h) ▸ ⟨heq.1.symm, heq.2.symm⟩,
          (fun _ h => nomatch h), fun b hb => ?_⟩
        rw [heq.1, heq.2]; exact hgt b hb
      · rw [if_neg heq]
        obtain ⟨A, B, o, h0, h1, h2, h3, h4⟩ := ih hs'
        refine ⟨g :: A, B, o, by rw [h0]; rfl, by rw [h1]; rfl, h2, fun a ha => ?_, h4⟩
        rcases List.mem_cons.mp ha with e | e
        · rw [e]; exact keyLt_total (fun h => hlt ((grpLt_iff _ _ _).mpr h)) heq
        · exact h3 a e

/-- the day of `r` has content, and `r` carries its entry count and daily hash (nothing is said of the history) -/
def RowRight (sigs : Content) (room ent : Nat) (r : DayRow) : Prop :=
  sigs room ent r.day ≠ [] ∧ r.count = (sigs room ent r.day).length ∧ r.daily = dailyOf (sigs room ent r.day)

/-- days written in the current writer batch whose marks are not yet in the table -/
abbrev Pending := Nat → Nat → Nat → Prop

/-- `r` can be trusted up to and including its history hash: it is unmarked and no mark is pending for its day or for
    an earlier day of the group (a change of an earlier day changes every later history) -/
def GoodRow (P : Pending) (room ent : Nat) (r : DayRow) : Prop :=
  r.dirty = false ∧ ∀ day, day ≤ r.day → ¬ P room ent day

/-- the invariant of one group between the stored content `sigs`, the rows of the table and the marks `P` not yet
    written. `right`: an unmarked row whose day has no pending mark carries the count and daily hash of its day.
    `chain`: every prefix of the rows made of `GoodRow`s is the specification computed from scratch over the days of that
    prefix — stated for prefixes because the rows after the first marked or pending day may hold stale histories. -/
structure GInv (sigs : Content) (P : Pending) (g : Group) : Prop where
  sorted : RowsSorted g.rows
  right : ∀ r ∈ g.rows, r.dirty = false → ¬ P g.room g.ent r.day → RowRight sigs g.room g.ent r
  chain : ∀ pre post, g.rows = pre ++ post → (∀ r ∈ pre, GoodRow P g.room g.ent r) →
    pre = specRows sigs g.room g.ent (pre.map (·.day))

/-- the invariant of the whole table: groups in key order, `GInv` for each, and every `(room, entity, day)` that has
    content has a row or a pending mark (so the recomputation will reach it) -/
structure WInv (sigs : Content) (P : Pending) (log : Log) : Prop where
  groups : GroupsSorted log
  ginv : ∀ g ∈ log, GInv sigs P g
  covers : ∀ room ent day, sigs room ent day ≠ [] →
    P room ent day ∨ ∃ g ∈ log, g.room = room ∧ g.ent = ent ∧ ∃ r ∈ g.rows, r.day = day

theorem WInv_empty : WInv (fun _ _ _ => []) (fun _ _ _ => False) [] :=
  ⟨List.Pairwise.nil, by simp, by simp⟩

theorem GInv.write {sigs sigs' : Content} {P P' : Pending} {g : Group} (h : GInv sigs P g)
    (hp : ∀ d, P g.room g.ent d → P' g.room g.ent d)
    (hc : ∀ d, sigs' g.room g.ent d ≠ sigs g.room g.ent d → P' g.room g.ent d) : GInv sigs' P' g := by
  have hsame : ∀ d, ¬ P' g.room g.ent d → sigs' g.room g.ent d = sigs g.room g.ent d :=
    fun d hn => Decidable.byContradiction fun he => hn (hc d he)
  refine ⟨h.sorted, ?_, ?_⟩
  · intro r hr hd hnp
    have := h.right r hr hd (fun x => hnp (hp _ x))
    unfold RowRight at this ⊢
    rw [hsame _ hnp]; exact this
  · intro pre post he hgood
    have h1 := h.chain pre post he (fun r hr => ⟨(hgood r hr).1, fun day hd x => (hgood r hr).2 day hd (hp _ x)⟩)
    rw [specRows, specRowsFrom_congr (sigs := sigs) (sigs' := sigs')]
    · exact h1
    · intro d hd
      obtain ⟨r, hr, hrd⟩ := List.mem_map.mp hd
      subst hrd
      rw [hsame _ ((hgood r hr).2 r.day (Nat.le_refl _))]
      exact ⟨rfl, rfl⟩

theorem GInv.mono {sigs : Content} {P P' : Pending} {g : Group} (h : GInv sigs P g)
    (hp : ∀ day, P g.room g.ent day → P' g.room g.ent day) : GInv sigs P' g :=
  h.write hp fun _ hne => absurd rfl hne

theorem WInv_write {sigs sigs' : Content} {P P' : Pending} {log : Log} (h : WInv sigs P log)
    (hp : ∀ r e d, P r e d → P' r e d) (hc : ∀ r e d, sigs' r e d ≠ sigs r e d → P' r e d) :
    WInv sigs' P' log := by
  refine ⟨h.groups, fun g hg => (h.ginv g hg).write (hp _ _) (hc _ _), fun room ent day hne => ?_⟩
  by_cases he : sigs' room ent day = sigs room ent day
  · exact (h.covers room ent day (he ▸ hne)).imp (hp _ _ _) id
  · exact Or.inl (hc _ _ _ he)

theorem WInv.mono {sigs : Content} {P P' : Pending} {log : Log} (h : WInv sigs P log)
    (hp : ∀ r e d, P r e d → P' r e d) : WInv sigs P' log :=
  WInv_write h hp fun _ _ _ hne => absurd rfl hne

theorem clean_prefix_of_split {A B pre post : List DayRow} {m : DayRow} (hm : m.dirty = true)
    (he : A ++ m :: B = pre ++ post) (hc : ∀ r ∈ pre, r.dirty = false) : ∃ a', A = pre ++ a' := by
  rcases List.append_eq_append_iff.mp he with ⟨a', h1, h2⟩ | ⟨c', h1, _⟩
  · cases a' with
    | nil => exact ⟨[], by simpa using h1.symm⟩
    | cons x a'' =>
      simp only [List.cons_append, List.cons.injEq] at h2
      have : m ∈ pre := by rw [h1, h2.1]; simp
      have := hc m this
      rw [hm] at this; cases this
  · exact ⟨c', h1⟩

theorem GInv_markRows {sigs : Content} {P P' : Pending} {g : Group} {day : Nat} (h : GInv sigs P g)
    (hp : ∀ d, P g.room g.ent d → P' g.room g.ent d ∨ d = day) :
    GInv sigs P' { g with rows := markRows day g.rows } := by
  obtain ⟨A, B, o, m, h0, h1, h2, h3, _, h5, h6⟩ := markRows_split day g.rows h.sorted
  refine ⟨markRows_sorted h.sorted, ?_, ?_⟩
  · intro r hr hd hnp
    rw [show ({ g with rows := markRows day g.rows } : Group).rows = A ++ m :: B from h1] at hr
    have hr' : r ∈ g.rows ∧ r.day ≠ day := by
      rw [h0]
      rcases List.mem_append.mp hr with hr | hr
      · exact ⟨List.mem_append_left _ hr, Nat.ne_of_lt (h5 r hr)⟩
      · rcases List.mem_cons.mp hr with hr | hr
        · rw [hr, h3] at hd; cases hd
        · exact ⟨List.mem_append_right _ (List.mem_append_right _ hr), Nat.ne_of_gt (h6 r hr)⟩
    exact h.right r hr'.1 hd fun hpp => (hp _ hpp).elim hnp hr'.2
  · intro pre post he hg
    obtain ⟨a', ha'⟩ := clean_prefix_of_split h3 (h1.symm.trans he) (fun r hr => (hg r hr).1)
    refine h.chain pre (a' ++ (o.toList ++ B)) (by rw [h0, ha', List.append_assoc]) fun r hr => ⟨(hg r hr).1, ?_⟩
    intro d hd hpp
    rcases hp _ hpp with h7 | h7
    · exact (hg r hr).2 d hd h7
    · have := h5 r (ha' ▸ List.mem_append_left _ hr)
      omega

theorem mem_markRows_day {day : Nat} {rows : List DayRow} (hs : RowsSorted rows) :
    (∃ r ∈ markRows day rows, r.day = day) ∧ ∀ r ∈ rows, ∃ r' ∈ markRows day rows, r'.day = r.day := by
  obtain ⟨A, B, o, m, h0, h1, h2, _, h4, _, _⟩ := markRows_split day rows hs
  rw [h1]
  refine ⟨⟨m, List.mem_append_right _ List.mem_cons_self, h2⟩, fun r hr => ?_⟩
  rw [h0] at hr
  rcases List.mem_append.mp hr with hr | hr
  · exact ⟨r, List.mem_append_left _ hr, rfl⟩
  · rcases List.mem_append.mp hr with hr | hr
    · exact ⟨m, List.mem_append_right _ List.mem_cons_self, h2.trans (h4 r (Option.mem_toList.mp hr)).symm⟩
    · exact ⟨r, List.mem_append_right _ (List.mem_cons_of_mem _ hr), rfl⟩

theorem WInv_mark {sigs : Content} {P P' : Pending} {log : Log} {k : Key} (h : WInv sigs P log)
    (hp : ∀ room ent day, P room ent day → P' room ent day ∨ (room = k.room ∧ ent = k.ent ∧ day = k.day)) :
    WInv sigs P' (mark k log) := by
  obtain ⟨A, B, o, h0, h1, h2, h3, h4⟩ := mark_split k log h.groups
  have hg0 : GInv sigs P { room := k.room, ent := k.ent, rows := (o.map (·.rows)).getD [] } := by
    cases o with
    | none =>
      exact ⟨List.Pairwise.nil, (fun _ hr => nomatch hr), fun pre post he _ => by
        rw [(List.append_eq_nil_iff.mp he.symm).1]; rfl⟩
    | some g0 =>
      have := h.ginv g0 (h0 ▸ List.mem_append_right _ List.mem_cons_self)
      rw [← (h2 g0 rfl).1, ← (h2 g0 rfl).2]; exact this
  have hmarked := GInv_markRows (day := k.day) (P' := P') hg0 fun d hpd => (hp _ _ _ hpd).imp id (·.2.2)
  have hother : ∀ g, g ∈ A ∨ g ∈ B → GInv sigs P' g := by
    intro g hg
    have hne : ¬ (g.room = k.room ∧ g.ent = k.ent) := by
      intro e
      rcases hg with hg | hg
      · have := h3 g hg; rw [e.1, e.2] at this; exact keyLt_irrefl _ _ this
      · have := h4 g hg; rw [e.1, e.2] at this; exact keyLt_irrefl _ _ this
    have hm : g ∈ log :=
      h0 ▸ hg.elim (List.mem_append_left _) fun x => List.mem_append_right _ (List.mem_append_right _ x)
    exact (h.ginv g hm).mono fun day hpd => (hp _ _ _ hpd).elim id fun e => absurd ⟨e.1, e.2.1⟩ hne
  have hm : ({ room := k.room, ent := k.ent, rows := markRows k.day ((o.map (·.rows)).getD []) } : Group) ∈ mark k log :=
    h1 ▸ List.mem_append_right _ List.mem_cons_self
  refine ⟨h1 ▸ pairwise_insert (h0 ▸ h.groups) h3 h4, ?_, fun room ent day hne => ?_⟩
  · rw [h1]
    exact List.forall_mem_append.mpr ⟨fun g hg => hother g (Or.inl hg),
      List.forall_mem_cons.mpr ⟨hmarked, fun g hg => hother g (Or.inr hg)⟩⟩
  · rcases h.covers room ent day hne with hc | ⟨g, hg, hr, he, r, hrm, hrd⟩
    · rcases hp _ _ _ hc with h5 | ⟨h5, h6, h7⟩
      · exact Or.inl h5
      · rw [h5, h6, h7]
        exact Or.inr ⟨_, hm, rfl, rfl, (mem_markRows_day hg0.sorted).1⟩
    · right
      have hin : ∀ x, x ∈ A ∨ x ∈ B → x ∈ mark k log := fun x hx =>
        h1 ▸ hx.elim (List.mem_append_left _) fun y => List.mem_append_right _ (List.mem_cons_of_mem _ y)
      rw [h0] at hg
      rcases List.mem_append.mp hg with hg | hg
      · exact ⟨g, hin g (Or.inl hg), hr, he, r, hrm, hrd⟩
      · rcases List.mem_append.mp hg with hg | hg
        · have ho := Option.mem_toList.mp hg
          obtain ⟨r', hr', hd'⟩ := (mem_markRows_day (day := k.day) hg0.sorted).2 r (by rw [ho]; exact hrm)
          exact ⟨_, hm, (h2 g ho).1.symm.trans hr, (h2 g ho).2.symm.trans he, r', hr', hd'.trans hrd⟩
        · exact ⟨g, hin g (Or.inr hg), hr, he, r, hrm, hrd⟩

theorem WInv_markAll {sigs : Content} {P' : Pending} (ks : List Key) {log : Log}
    (h : WInv sigs (fun r e d => P' r e d ∨ ({ room := r, ent := e, day := d } : Key) ∈ ks) log) :
    WInv sigs P' (markAll ks log) := by
  induction ks generalizing log with
  | nil =>
    exact h.mono fun r e d hp => hp.elim id fun hm => nomatch hm
  | cons k t ih =>
    simp only [markAll, List.foldl_cons]
    refine ih (log := mark k log) (WInv_mark h ?_)
    intro room ent day hp
    rcases hp with hp | hp
    · exact Or.inl (Or.inl hp)
    · rcases List.mem_cons.mp hp with hp | hp
      · subst hp; exact Or.inr ⟨rfl, rfl, rfl⟩
      · exact Or.inl (Or.inr hp)

theorem mem_takeWhile {α : Type} {p : α → Bool} {l : List α} {x : α} (h : x ∈ l.takeWhile p) : p x = true := by
  induction l with
  | nil => cases h
  | cons a t ih =>
    rw [List.takeWhile_cons] at h
    split at h
    · rcases List.mem_cons.mp h with e | e
      · rw [e]; assumption
      · exact ih e
    · cases h

theorem dropWhile_eq_nil_iff {α : Type} {p : α → Bool} {l : List α} :
    l.dropWhile p = [] ↔ ∀ x ∈ l, p x = true := by
  induction l with
  | nil => simp
  | cons a t ih =>
    rw [List.dropWhile_cons]
    cases ha : p a with
    | true => simp only [↓reduceIte, ih, List.mem_cons, forall_eq_or_imp, ha, true_and]
    | false => simp [ha]

theorem cleanPrefix_append_fromFirstDirty (rows : List DayRow) : cleanPrefix rows ++ fromFirstDirty rows = rows :=
  List.takeWhile_append_dropWhile

theorem mem_cleanPrefix_clean {rows : List DayRow} {r : DayRow} (h : r ∈ cleanPrefix rows) : r.dirty = false := by
  simpa using mem_takeWhile h

theorem fromFirstDirty_nil_iff {l : List DayRow} : fromFirstDirty l = [] ↔ ∀ r ∈ l, r.dirty = false := by
  simp [fromFirstDirty, dropWhile_eq_nil_iff]

theorem fromFirstDirty_isEmpty {l : List DayRow} :
    (fromFirstDirty l).isEmpty = false ↔ ∃ r ∈ l, r.dirty = true := by
  rw [Bool.eq_false_iff, ne_eq, List.isEmpty_iff, fromFirstDirty_nil_iff]
  constructor
  · intro h
    exact Decidable.byContradiction fun hn => h fun r hr => Bool.eq_false_iff.mpr fun hd => hn ⟨r, hr, hd⟩
  · rintro ⟨r, hr, hd⟩ h
    rw [h r hr] at hd; cases hd

theorem fromFirstDirty_head {rows t : List DayRow} {r0 : DayRow} (h : fromFirstDirty rows = r0 :: t) :
    r0.dirty = true := by
  have := List.head?_dropWhile_not (fun r : DayRow => !r.dirty) rows
  rw [show rows.dropWhile (fun r => !r.dirty) = r0 :: t from h] at this
  simpa using this

theorem cleanPrefix_append_clean {l1 l2 : List DayRow} (h : ∀ r ∈ l1, r.dirty = false) :
    cleanPrefix (l1 ++ l2) = l1 ++ cleanPrefix l2 ∧ fromFirstDirty (l1 ++ l2) = fromFirstDirty l2 :=
  ⟨List.takeWhile_append_of_pos (fun r hr => by simp [h r hr]),
   List.dropWhile_append_of_pos (fun r hr => by simp [h r hr])⟩

theorem cleanPrefix_append_dirty {l1 : List DayRow} (l2 : List DayRow) (h : ∃ r ∈ l1, r.dirty = true) :
    cleanPrefix (l1 ++ l2) = cleanPrefix l1 ∧ fromFirstDirty (l1 ++ l2) = fromFirstDirty l1 ++ l2 := by
  cases hf : fromFirstDirty l1 with
  | nil =>
    obtain ⟨r, hr, hd⟩ := h
    rw [fromFirstDirty_nil_iff.mp hf r hr] at hd; cases hd
  | cons b t =>
    have hb : b.dirty = true := fromFirstDirty_head hf
    have hl : l1 ++ l2 = cleanPrefix l1 ++ b :: (t ++ l2) := by
      rw [← List.cons_append, ← hf, ← List.append_assoc, cleanPrefix_append_fromFirstDirty]
    obtain ⟨e1, e2⟩ := cleanPrefix_append_clean (l1 := cleanPrefix l1) (l2 := b :: (t ++ l2)) fun _ => mem_cleanPrefix_clean
    rw [hl, e1, e2]
    simp [cleanPrefix, fromFirstDirty, hb]

/-- what the loop writes back for a row it read -/
def Rewritten (sigs : Content) (room ent : Nat) (r r' : DayRow) : Prop :=
  r'.dirty = false ∧ r'.day = r.day ∧
    ((r.dirty = false ∧ r'.count = r.count ∧ r'.daily = r.daily) ∨
     (r.dirty = true ∧ r'.count = (sigs room ent r.day).length ∧ r'.daily = dailyOf (sigs room ent r.day)))

theorem sameGroup_true_iff (c : Cursor) (room ent : Nat) :
    sameGroup c room ent = true ↔ c.grp = some (room, ent) := by
  unfold sameGroup
  cases c.grp with
  | none => simp
  | some x => simp [Prod.ext_iff]

theorem sameGroup_false_iff (c : Cursor) (room ent : Nat) :
    sameGroup c room ent = false ↔ c.grp ≠ some (room, ent) := by
  rw [ne_eq, ← sameGroup_true_iff, Bool.not_eq_true]

section step
variable (d : Defects) (sigs : Content) (room ent : Nat) (c : Cursor)

theorem stepRow_cases (r : DayRow) :
    (r.dirty = true ∧ sigs room ent r.day = [] ∧ d.emptyDayRow = false ∧
      stepRow d sigs room ent c r = (if sameGroup c room ent then c else Cursor.start room ent, none)) ∨
    (¬ (r.dirty = true ∧ sigs room ent r.day = [] ∧ d.emptyDayRow = false) ∧ ∃ c' r',
      stepRow d sigs room ent c r = (c', some r') ∧ Rewritten sigs room ent r r' ∧ c'.grp = some (room, ent)) := by
  unfold stepRow
  rcases Bool.eq_false_or_eq_true r.dirty with hd | hd
  · rw [if_neg (by rw [hd]; decide)]
    dsimp only
    by_cases h : ((sigs room ent r.day).isEmpty && !d.emptyDayRow) = true
    · rw [if_pos h]
      rw [Bool.and_eq_true, List.isEmpty_iff, Bool.not_eq_true'] at h
      exact Or.inl ⟨hd, h.1, h.2, rfl⟩
    · rw [if_neg h]
      have hkept : ¬ (r.dirty = true ∧ sigs room ent r.day = [] ∧ d.emptyDayRow = false) :=
        fun ⟨_, h1, h2⟩ => h (by rw [h1, h2]; rfl)
      exact Or.inr ⟨hkept, _, _, rfl, ⟨rfl, rfl, Or.inr ⟨hd, rfl, rfl⟩⟩, rfl⟩
  · have hw : ∀ h, Rewritten sigs room ent r { r with hist := h } := fun h => ⟨hd, rfl, Or.inl ⟨hd, rfl, rfl⟩⟩
    refine Or.inr ⟨fun h => (by rw [hd] at h; cases h.1), ?_⟩
    rw [if_pos (by rw [hd]; rfl)]
    cases sameGroup c room ent
    · cases d.historySeedDropped <;> exact ⟨_, _, rfl, hw r.hist, rfl⟩
    · cases c.hist
      · cases d.emptyDayRow <;> exact ⟨_, _, rfl, hw _, rfl⟩
      · exact ⟨_, _, rfl, hw _, rfl⟩

theorem stepRow_some {r r' : DayRow} (h : (stepRow d sigs room ent c r).2 = some r') :
    Rewritten sigs room ent r r' := by
  rcases stepRow_cases d sigs room ent c r with ⟨_, _, _, e⟩ | ⟨_, _, _, e, hw, _⟩
  · rw [e] at h; cases h
  · rw [e] at h; cases h; exact hw

theorem stepRow_none_iff {r : DayRow} :
    (stepRow d sigs room ent c r).2 = none ↔ r.dirty = true ∧ sigs room ent r.day = [] ∧ d.emptyDayRow = false := by
  rcases stepRow_cases d sigs room ent c r with ⟨h1, h2, h3, e⟩ | ⟨hn, _, _, e, _⟩
  · rw [e]; exact ⟨fun _ => ⟨h1, h2, h3⟩, fun _ => rfl⟩
  · rw [e]; exact ⟨fun h => (nomatch h), fun h => absurd h hn⟩

/-- after a row of a group the cursor is in that group, whether the row was kept or not -/
theorem stepRow_grp (r : DayRow) : (stepRow d sigs room ent c r).1.grp = some (room, ent) := by
  rcases stepRow_cases d sigs room ent c r with ⟨_, _, _, e⟩ | ⟨_, _, _, e, _, hg⟩
  · rw [e]
    cases hs : sameGroup c room ent
    · rfl
    · exact (sameGroup_true_iff c room ent).mp hs
  · rw [e]; exact hg

end step

section walk
variable (d : Defects) (sigs : Content) (room ent : Nat)

theorem walkRows_cons (c : Cursor) (r : DayRow) (t : List DayRow) :
    walkRows d sigs room ent c (r :: t) =
      ((walkRows d sigs room ent (stepRow d sigs room ent c r).1 t).1,
       (stepRow d sigs room ent c r).2.toList ++ (walkRows d sigs room ent (stepRow d sigs room ent c r).1 t).2) := rfl

theorem walkRows_append (l1 l2 : List DayRow) (c : Cursor) :
    walkRows d sigs room ent c (l1 ++ l2) =
      ((walkRows d sigs room ent (walkRows d sigs room ent c l1).1 l2).1,
       (walkRows d sigs room ent c l1).2 ++ (walkRows d sigs room ent (walkRows d sigs room ent c l1).1 l2).2) := by
  induction l1 generalizing c with
  | nil => rfl
  | cons a t ih => rw [List.cons_append, walkRows_cons, walkRows_cons, ih, List.append_assoc]

theorem walkRows_days (l : List DayRow) (c : Cursor) :
    ((walkRows d sigs room ent c l).2.map (·.day)).Sublist (l.map (·.day)) := by
  induction l generalizing c with
  | nil => exact List.Sublist.refl _
  | cons a t ih =>
    rw [walkRows_cons, List.map_append, List.map_cons]
    cases ho : (stepRow d sigs room ent c a).2 with
    | none => exact (ih _).cons _
    | some r' =>
      rw [← (stepRow_some d sigs room ent c ho).2.1]
      exact (ih _).cons_cons _

theorem walkRows_grp (l : List DayRow) (c : Cursor) :
    (walkRows d sigs room ent c l).1.grp = c.grp ∨ (walkRows d sigs room ent c l).1.grp = some (room, ent) := by
  induction l generalizing c with
  | nil => exact Or.inl rfl
  | cons a t ih =>
    rw [walkRows_cons]
    exact Or.inr ((ih (stepRow d sigs room ent c a).1).elim (·.trans (stepRow_grp d sigs room ent c a)) id)

theorem walkRows_mem (l : List DayRow) (c : Cursor) :
    (∀ r' ∈ (walkRows d sigs room ent c l).2, ∃ r ∈ l, ∃ c', (stepRow d sigs room ent c' r).2 = some r') ∧
    (∀ r ∈ l, ∃ c', ∀ r', (stepRow d sigs room ent c' r).2 = some r' → r' ∈ (walkRows d sigs room ent c l).2) := by
  induction l generalizing c with
  | nil => exact ⟨fun _ h => (by cases h), fun _ h => (by cases h)⟩
  | cons a t ih =>
    obtain ⟨i1, i2⟩ := ih (stepRow d sigs room ent c a).1
    rw [walkRows_cons]
    constructor
    · intro r' hr'
      rcases List.mem_append.mp hr' with h | h
      · exact ⟨a, List.mem_cons_self, c, Option.mem_toList.mp h⟩
      · obtain ⟨r, hr, q⟩ := i1 r' h
        exact ⟨r, List.mem_cons_of_mem _ hr, q⟩
    · intro r hr
      rcases List.mem_cons.mp hr with e | e
      · subst e
        exact ⟨c, fun r' h => List.mem_append_left _ (Option.mem_toList.mpr h)⟩
      · obtain ⟨c', q⟩ := i2 r e
        exact ⟨c', fun r' h => List.mem_append_right _ (q r' h)⟩

end walk

section group
variable {d : Defects} {sigs : Content} {c : Cursor} {g : Group}

theorem recomputeGroup_key (sigs : Content) (c : Cursor) (g : Group) :
    (recomputeGroup d sigs c g).2.room = g.room ∧ (recomputeGroup d sigs c g).2.ent = g.ent := by
  unfold recomputeGroup
  dsimp only
  split
  · exact ⟨rfl, rfl⟩
  · split <;> exact ⟨rfl, rfl⟩

theorem recomputeGroup_clean (hre : (fromFirstDirty g.rows).isEmpty = true) : recomputeGroup d sigs c g = (c, g) := by
  simp [recomputeGroup, hre]

theorem recomputeGroup_window (hl : d.lazyScan = false) (hre : (fromFirstDirty g.rows).isEmpty = false) :
    recomputeGroup d sigs c g =
      ((walkRows d sigs g.room g.ent c ((cleanPrefix g.rows).getLast?.toList ++ fromFirstDirty g.rows)).1,
       { g with rows := (cleanPrefix g.rows).dropLast ++
          (walkRows d sigs g.room g.ent c ((cleanPrefix g.rows).getLast?.toList ++ fromFirstDirty g.rows)).2 }) := by
  simp [recomputeGroup, hre, hl]

/-- what `recomputeGroup` does to the rows of a group and to the cursor when the window is read before the loop: every
    row is left as it is (an unmarked one) or is what one iteration of the loop, at some cursor, writes back for it -/
structure GroupRewrite (d : Defects) (sigs : Content) (c : Cursor) (g : Group) (out : Cursor × Group) : Prop where
  days : (out.2.rows.map (·.day)).Sublist (g.rows.map (·.day))
  origin : ∀ r' ∈ out.2.rows, ∃ r ∈ g.rows,
    (r' = r ∧ r.dirty = false) ∨ ∃ c', (stepRow d sigs g.room g.ent c' r).2 = some r'
  image : ∀ r ∈ g.rows, (r.dirty = false ∧ r ∈ out.2.rows) ∨
    ∃ c', ∀ r', (stepRow d sigs g.room g.ent c' r).2 = some r' → r' ∈ out.2.rows
  grp : out.1.grp = c.grp ∨ out.1.grp = some (g.room, g.ent)

theorem recomputeGroup_rows (hl : d.lazyScan = false) (sigs : Content) (c : Cursor) (g : Group) :
    GroupRewrite d sigs c g (recomputeGroup d sigs c g) := by
  cases hre : (fromFirstDirty g.rows).isEmpty with
  | true =>
    rw [recomputeGroup_clean hre]
    have hall := fromFirstDirty_nil_iff.mp (List.isEmpty_iff.mp hre)
    exact ⟨List.Sublist.refl _, fun r' h => ⟨r', h, Or.inl ⟨rfl, hall r' h⟩⟩, fun r h => Or.inl ⟨hall r h, h⟩,
      Or.inl rfl⟩
  | false =>
    rw [recomputeGroup_window hl hre]
    have hg : (cleanPrefix g.rows).dropLast ++ ((cleanPrefix g.rows).getLast?.toList ++ fromFirstDirty g.rows) =
        g.rows := by
      rw [← List.append_assoc, dropLast_append_getLast?, cleanPrefix_append_fromFirstDirty]
    have hinit : ∀ r ∈ (cleanPrefix g.rows).dropLast, r.dirty = false :=
      fun r hr => mem_cleanPrefix_clean ((List.dropLast_sublist _).subset hr)
    generalize (cleanPrefix g.rows).dropLast = init at hg hinit ⊢
    generalize (cleanPrefix g.rows).getLast?.toList ++ fromFirstDirty g.rows = W at hg ⊢
    obtain ⟨w1, w2⟩ := walkRows_mem d sigs g.room g.ent W c
    refine ⟨?_, ?_, ?_, walkRows_grp d sigs g.room g.ent W c⟩
    all_goals dsimp only
    · rw [← hg, List.map_append, List.map_append]
      exact (List.Sublist.refl _).append (walkRows_days d sigs g.room g.ent W c)
    · intro r' hr'
      rcases List.mem_append.mp hr' with h | h
      · exact ⟨r', hg ▸ List.mem_append_left _ h, Or.inl ⟨rfl, hinit r' h⟩⟩
      · obtain ⟨r, hr, q⟩ := w1 r' h
        exact ⟨r, hg ▸ List.mem_append_right _ hr, Or.inr q⟩
    · intro r hr
      rw [← hg] at hr
      rcases List.mem_append.mp hr with h | h
      · exact Or.inl ⟨hinit r h, List.mem_append_left _ h⟩
      · obtain ⟨c', q⟩ := w2 r h
        exact Or.inr ⟨c', fun r' e => List.mem_append_right _ (q r' e)⟩

theorem recomputeGroup_sorted (hl : d.lazyScan = false) (sigs : Content) (c : Cursor) (hs : RowsSorted g.rows) :
    RowsSorted (recomputeGroup d sigs c g).2.rows :=
  (rowsSorted_iff _).mpr (List.Pairwise.sublist (recomputeGroup_rows hl sigs c g).days ((rowsSorted_iff _).mp hs))

theorem recomputeGroup_keeps (hl : d.lazyScan = false) (sigs : Content) (c : Cursor) (g : Group) {r : DayRow}
    (hr : r ∈ g.rows) (h : r.dirty = false ∨ d.emptyDayRow = true ∨ sigs g.room g.ent r.day ≠ []) :
    ∃ r' ∈ (recomputeGroup d sigs c g).2.rows, Rewritten sigs g.room g.ent r r' := by
  rcases (recomputeGroup_rows hl sigs c g).image r hr with ⟨hd, hm⟩ | ⟨c', q⟩
  · exact ⟨r, hm, hd, rfl, Or.inl ⟨hd, rfl, rfl⟩⟩
  · cases ho : (stepRow d sigs g.room g.ent c' r).2 with
    | none =>
      obtain ⟨h1, h2, h3⟩ := (stepRow_none_iff d sigs g.room g.ent c').mp ho
      rcases h with h | h | h
      · rw [h1] at h; cases h
      · rw [h3] at h; cases h
      · exact absurd h2 h
    | some r' => exact ⟨r', q r' ho, stepRow_some d sigs g.room g.ent c' ho⟩

end group

theorem recomputeFrom_cons (d : Defects) (sigs : Content) (c : Cursor) (g : Group) (t : Log) :
    recomputeFrom d sigs c (g :: t) =
      if (recomputeGroup d sigs c g).2.rows.isEmpty then recomputeFrom d sigs (recomputeGroup d sigs c g).1 t
      else (recomputeGroup d sigs c g).2 :: recomputeFrom d sigs (recomputeGroup d sigs c g).1 t := rfl

/-- `I c l` is whatever is known of the cursor `c` when the groups `l` are still to come -/
theorem recomputeFrom_mem {d : Defects} {sigs : Content} {I : Cursor → Log → Prop}
    (hI : ∀ c g t, I c (g :: t) → I (recomputeGroup d sigs c g).1 t) (log : Log) (c : Cursor) (h : I c log) :
    (∀ g' ∈ recomputeFrom d sigs c log, g'.rows ≠ [] ∧
      ∃ c' g t, I c' (g :: t) ∧ g ∈ log ∧ g' = (recomputeGroup d sigs c' g).2) ∧
    (∀ g ∈ log, ∃ c' t, I c' (g :: t) ∧ ((recomputeGroup d sigs c' g).2.rows = [] ∨
      (recomputeGroup d sigs c' g).2 ∈ recomputeFrom d sigs c log)) ∧
    ((recomputeFrom d sigs c log).map fun g => (g.room, g.ent)).Sublist (log.map fun g => (g.room, g.ent)) := by
  induction log generalizing c with
  | nil => exact ⟨fun _ h => (by cases h), fun _ h => (by cases h), List.Sublist.refl _⟩
  | cons g t ih =>
    obtain ⟨i1, i2, i3⟩ := ih _ (hI c g t h)
    have i1' : ∀ g' ∈ recomputeFrom d sigs (recomputeGroup d sigs c g).1 t, g'.rows ≠ [] ∧
        ∃ c' x u, I c' (x :: u) ∧ x ∈ g :: t ∧ g' = (recomputeGroup d sigs c' x).2 := by
      intro g' hg'
      obtain ⟨a, c', x, u, b1, b2, b3⟩ := i1 g' hg'
      exact ⟨a, c', x, u, b1, List.mem_cons_of_mem _ b2, b3⟩
    rw [recomputeFrom_cons]
    cases he : (recomputeGroup d sigs c g).2.rows.isEmpty with
    | true =>
      rw [if_pos rfl]
      refine ⟨i1', fun x hx => ?_, i3.cons _⟩
      rcases List.mem_cons.mp hx with e | e
      · subst e; exact ⟨c, t, h, Or.inl (List.isEmpty_iff.mp he)⟩
      · exact i2 x e
    | false =>
      rw [if_neg (by decide)]
      refine ⟨fun g' hg' => ?_, fun x hx => ?_, ?_⟩
      · rcases List.mem_cons.mp hg' with e | e
        · subst e
          exact ⟨fun e => (by rw [e] at he; cases he), c, g, t, h, List.mem_cons_self, rfl⟩
        · exact i1' g' e
      · rcases List.mem_cons.mp hx with e | e
        · subst e; exact ⟨c, t, h, Or.inr List.mem_cons_self⟩
        · obtain ⟨c', u, b1, b2⟩ := i2 x e
          exact ⟨c', u, b1, b2.imp id (List.mem_cons_of_mem _)⟩
      · rw [List.map_cons, List.map_cons, (recomputeGroup_key sigs c g).1, (recomputeGroup_key sigs c g).2]
        exact i3.cons_cons _

theorem recomputeFrom_row {d : Defects} (sigs : Content) (log : Log) (c : Cursor) {g : Group} (hg : g ∈ log)
    {Q : DayRow → Prop} (h : ∀ c', ∃ r' ∈ (recomputeGroup d sigs c' g).2.rows, Q r') :
    ∃ g' ∈ recomputeFrom d sigs c log, g'.room = g.room ∧ g'.ent = g.ent ∧ ∃ r' ∈ g'.rows, Q r' := by
  obtain ⟨c', _, _, hm⟩ := (recomputeFrom_mem (I := fun _ _ => True) (fun _ _ _ _ => trivial) log c trivial).2.1 g hg
  obtain ⟨r', hr', q⟩ := h c'
  rcases hm with hm | hm
  · rw [hm] at hr'; cases hr'
  · exact ⟨_, hm, (recomputeGroup_key sigs c' g).1, (recomputeGroup_key sigs c' g).2, r', hr', q⟩

theorem recomputeFrom_keeps {d : Defects} (hl : d.lazyScan = false) (sigs : Content) (log : Log) (c : Cursor)
    {g : Group} (hg : g ∈ log) {r : DayRow} (hr : r ∈ g.rows)
    (h : r.dirty = false ∨ d.emptyDayRow = true ∨ sigs g.room g.ent r.day ≠ []) :
    ∃ g' ∈ recomputeFrom d sigs c log, g'.room = g.room ∧ g'.ent = g.ent ∧
      ∃ r' ∈ g'.rows, Rewritten sigs g.room g.ent r r' :=
  recomputeFrom_row sigs log c hg fun c' => recomputeGroup_keeps hl sigs c' g hr h

theorem WInv.covers_recompute {d : Defects} (hl : d.lazyScan = false) {sigs : Content} {P : Pending} {log : Log}
    (h : WInv sigs P log) (room ent day : Nat) (hne : sigs room ent day ≠ []) :
    P room ent day ∨ ∃ g ∈ recompute d sigs log, g.room = room ∧ g.ent = ent ∧ ∃ r ∈ g.rows, r.day = day := by
  refine (h.covers room ent day hne).imp id ?_
  rintro ⟨g, hg, rfl, rfl, r, hr, rfl⟩
  obtain ⟨g', hg', k1, k2, r', hr', q⟩ := recomputeFrom_keeps hl sigs log Cursor.init hg hr (Or.inr (Or.inr hne))
  exact ⟨g', hg', k1, k2, r', hr', q.2.1⟩

def CursorBefore (c : Cursor) (log : Log) : Prop := GroupsSorted log ∧ ∀ g ∈ log, c.grp ≠ some (g.room, g.ent)

theorem CursorBefore.sameGroup {c : Cursor} {g : Group} {t : Log} (h : CursorBefore c (g :: t)) :
    sameGroup c g.room g.ent = false :=
  (sameGroup_false_iff _ _ _).mpr (h.2 g List.mem_cons_self)

theorem CursorBefore.step {d : Defects} (hl : d.lazyScan = false) (sigs : Content) {c : Cursor} {g : Group} {t : Log}
    (h : CursorBefore c (g :: t)) : CursorBefore (recomputeGroup d sigs c g).1 t := by
  obtain ⟨hgt, hs'⟩ := List.pairwise_cons.mp h.1
  refine ⟨hs', fun x hx => ?_⟩
  rcases (recomputeGroup_rows hl sigs c g).grp with e | e
  · rw [e]; exact h.2 x (List.mem_cons_of_mem _ hx)
  · rw [e]
    intro e2
    injection e2 with e2
    injection e2 with e3 e4
    have := hgt x hx
    rw [e3, e4] at this
    exact keyLt_irrefl _ _ this

/-- the groups of the recomputed table: each is `recomputeGroup` of a group of the input, entered by a cursor that is not
    in that group (the groups come in key order, so the cursor is in an earlier one), and they stay in key order -/
theorem recompute_groups {d : Defects} (hl : d.lazyScan = false) (sigs : Content) {log : Log} (h : GroupsSorted log) :
    (∀ g' ∈ recompute d sigs log, g'.rows ≠ [] ∧
      ∃ c' g, sameGroup c' g.room g.ent = false ∧ g ∈ log ∧ g' = (recomputeGroup d sigs c' g).2) ∧
    GroupsSorted (recompute d sigs log) := by
  have hinit : CursorBefore Cursor.init log := ⟨h, fun _ _ e => nomatch e⟩
  obtain ⟨m1, _, m3⟩ := recomputeFrom_mem (fun c g t => CursorBefore.step hl sigs) log Cursor.init hinit
  refine ⟨fun g' hg' => ?_, ?_⟩
  · obtain ⟨a, c', g, t, b1, b2, b3⟩ := m1 g' hg'
    exact ⟨a, c', g, b1.sameGroup, b2, b3⟩
  · have : ((recompute d sigs log).map fun g => (g.room, g.ent)).Pairwise
        (fun a b => keyLt a.1 a.2 b.1 b.2) := List.Pairwise.sublist m3 (List.pairwise_map.mpr h)
    exact List.pairwise_map.mp this

end Discret.DailyLog
