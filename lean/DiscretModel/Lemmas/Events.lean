import DiscretModel.Model.Events
/-
The announcement model (`Model/Events.lean`), core Lean only. Writer level: what one batch does to the marks and the
events whether or not it holds a pass (`runItems_cases`, `commit_spec`), hence what any sequence of batches does
(`run_spec`): a marked cell stays marked or is reported, a pass in a later batch reports it, nothing unmarked is
reported. API level: a list of actions in which every change marks what it touches and is followed by a request
(`WR`) announces everything it touches when a sequential caller executes it (`execActs_announces`).
-/
namespace Discret.Events

@[simp] theorem passW_marks (k : Ent → Bool) (w : W) : (passW k w).marks = [] := rfl

@[simp] theorem passW_events (k : Ent → Bool) (w : W) :
    (passW k w).events = w.events ++ [w.marks.filter fun c => k c.ent] := rfl

def writesOf : List Item → List Cell
  | [] => []
  | .write m :: b => m ++ writesOf b
  | .pass :: b => writesOf b

theorem mem_writesOf {c : Cell} {b : List Item} : c ∈ writesOf b ↔ ∃ m, Item.write m ∈ b ∧ c ∈ m := by
  induction b with
  | nil => simp [writesOf]
  | cons it b ih => cases it <;> simp [writesOf, ih, or_and_right, exists_or]

theorem runItems_cases (k : Ent → Bool) (b : List Item) (w : W) (p : List Cell) :
    (runItems k w p b).2 = p ++ writesOf b ∧
    ((Item.pass ∉ b ∧ (runItems k w p b).1 = w) ∨
     (Item.pass ∈ b ∧ ∃ n, (runItems k w p b).1 =
        { marks := [], events := w.events ++ (w.marks.filter fun c => k c.ent) :: List.replicate n [] })) := by
  fun_induction runItems k w p b
  case case1 w p => exact ⟨(List.append_nil p).symm, Or.inl ⟨List.not_mem_nil, rfl⟩⟩
  case case2 w p m rest ih =>
    have hp : Item.pass ∈ Item.write m :: rest ↔ Item.pass ∈ rest := by simp
    rw [hp]
    exact ⟨ih.1.trans (List.append_assoc ..), ih.2⟩
  case case3 w p rest ih =>
    refine ⟨ih.1, Or.inr ⟨List.mem_cons_self, ?_⟩⟩
    rcases ih.2 with ⟨_, e⟩ | ⟨_, n, e⟩
    · exact ⟨0, e⟩
    · -- nothing is marked any more after the first pass
      exact ⟨n + 1, e.trans (congrArg (W.mk []) (List.append_assoc ..))⟩

theorem commit_of_not_pass (k : Ent → Bool) (w : W) {b : List Item} (h : Item.pass ∉ b) :
    commit k w b = { marks := w.marks ++ writesOf b, events := w.events } := by
  obtain ⟨h2, ⟨_, e⟩ | ⟨hp, _⟩⟩ := runItems_cases k b w []
  · unfold commit; rw [h2, e]; rfl
  · exact absurd hp h

theorem commit_of_pass (k : Ent → Bool) (w : W) {b : List Item} (h : Item.pass ∈ b) :
    ∃ n, commit k w b =
      { marks := writesOf b, events := w.events ++ (w.marks.filter fun c => k c.ent) :: List.replicate n [] } := by
  obtain ⟨h2, ⟨hp, _⟩ | ⟨_, n, e⟩⟩ := runItems_cases k b w []
  · exact absurd h hp
  · exact ⟨n, by unfold commit; rw [h2, e]; rfl⟩

theorem run_append (k : Ent → Bool) (w : W) (a b : List (List Item)) :
    run k w (a ++ b) = run k (run k w a) b := by
  induction a generalizing w with
  | nil => rfl
  | cons x xs ih => simp [run, ih]

/-- one batch: its changes are marked at its end; what was marked before stays marked, unless the batch holds a pass,
    which reports it (`F`, the events of the batch); nothing else is marked or reported -/
theorem commit_spec (k : Ent → Bool) (w : W) (b : List Item) :
    ∃ F, (commit k w b).events = w.events ++ F ∧
      (∀ c, c ∈ writesOf b → c ∈ (commit k w b).marks) ∧
      (∀ c, c ∈ (commit k w b).marks → c ∈ w.marks ∨ c ∈ writesOf b) ∧
      (∀ c, c ∈ w.marks → k c.ent = true → (Item.pass ∉ b ∧ c ∈ (commit k w b).marks) ∨ ∃ e ∈ F, c ∈ e) ∧
      (∀ e ∈ F, ∀ c ∈ e, k c.ent = true ∧ c ∈ w.marks) := by
  by_cases hp : Item.pass ∈ b
  · obtain ⟨n, e⟩ := commit_of_pass k w hp
    rw [e]
    refine ⟨_, rfl, fun _ h => h, fun _ h => Or.inr h,
      fun c hc hk => Or.inr ⟨_, List.mem_cons_self, List.mem_filter.mpr ⟨hc, hk⟩⟩, fun e he c hc => ?_⟩
    rcases List.mem_cons.mp he with rfl | he
    · exact (List.mem_filter.mp hc).symm
    · cases (List.mem_replicate.mp he).2; cases hc
  · rw [commit_of_not_pass k w hp]
    exact ⟨[], (List.append_nil _).symm, fun _ h => List.mem_append_right _ h, fun _ h => List.mem_append.mp h,
      fun c hc _ => Or.inl ⟨hp, List.mem_append_left _ hc⟩, fun _ he => nomatch he⟩

theorem run_spec (k : Ent → Bool) (bs : List (List Item)) : ∀ (w : W),
    ∃ l, (run k w bs).events = w.events ++ l ∧
      (∀ c, c ∈ w.marks → k c.ent = true → c ∈ (run k w bs).marks ∨ ∃ e ∈ l, c ∈ e) ∧
      ((∃ b ∈ bs, Item.pass ∈ b) → (∀ c, c ∈ w.marks → k c.ent = true → ∃ e ∈ l, c ∈ e)) ∧
      (∀ e ∈ l, ∀ c ∈ e, k c.ent = true ∧ (c ∈ w.marks ∨ ∃ b ∈ bs, ∃ m, Item.write m ∈ b ∧ c ∈ m)) := by
  induction bs with
  | nil =>
    exact fun w => ⟨[], (List.append_nil _).symm, fun c hc _ => Or.inl hc, fun ⟨_, hb, _⟩ => (nomatch hb),
      fun _ he => nomatch he⟩
  | cons b rest ih =>
    intro w
    obtain ⟨F, h0, _, hM, hK, hF⟩ := commit_spec k w b
    obtain ⟨l, h1, h2, h3, h4⟩ := ih (commit k w b)
    have early : ∀ {c}, (∃ e ∈ F, c ∈ e) → ∃ e ∈ F ++ l, c ∈ e := fun ⟨e, he, hc⟩ => ⟨e, List.mem_append_left _ he, hc⟩
    have late : ∀ {c}, (∃ e ∈ l, c ∈ e) → ∃ e ∈ F ++ l, c ∈ e := fun ⟨e, he, hc⟩ => ⟨e, List.mem_append_right _ he, hc⟩
    refine ⟨F ++ l, (h1.trans (congrArg (· ++ l) h0)).trans (List.append_assoc ..), fun c hc hk => ?_, ?_, ?_⟩
    · exact (hK c hc hk).elim (fun h => (h2 c h.2 hk).imp id late) fun h => Or.inr (early h)
    · rintro ⟨b', hb', hp'⟩ c hc hk
      rcases hK c hc hk with ⟨hnp, hm⟩ | hf
      · -- still marked after `b`, which holds no pass: the pass is in a later batch
        have hb' : b' ∈ rest := (List.mem_cons.mp hb').resolve_left fun e => hnp (e ▸ hp')
        exact late (h3 ⟨b', hb', hp'⟩ c hm hk)
      · exact early hf
    · intro e he c hc
      rcases List.mem_append.mp he with he | he
      · exact ⟨(hF e he c hc).1, Or.inl (hF e he c hc).2⟩
      · obtain ⟨hk, hm | ⟨b', hb', h⟩⟩ := h4 e he c hc
        · exact ⟨hk, (hM c hm).imp id fun h => ⟨b, List.mem_cons_self, mem_writesOf.mp h⟩⟩
        · exact ⟨hk, Or.inr ⟨b', List.mem_cons_of_mem _ hb', h⟩⟩

theorem run_after_change (k : Ent → Bool) (w0 : W) (pre : List (List Item)) (b : List Item)
    (post : List (List Item)) (m : List Cell) (c : Cell)
    (hw : Item.write m ∈ b) (hc : c ∈ m) (hk : k c.ent = true) :
    ∃ late, (run k w0 (pre ++ b :: post)).events = (run k w0 (pre ++ [b])).events ++ late ∧
      (c ∈ (run k w0 (pre ++ b :: post)).marks ∨ ∃ e ∈ late, c ∈ e) ∧
      ((∃ b' ∈ post, Item.pass ∈ b') → ∃ e ∈ late, c ∈ e) := by
  have e1 : run k w0 (pre ++ b :: post) = run k (commit k (run k w0 pre) b) post := by
    rw [run_append]; rfl
  have e2 : run k w0 (pre ++ [b]) = commit k (run k w0 pre) b := by
    rw [run_append]; rfl
  obtain ⟨_, _, hW, _⟩ := commit_spec k (run k w0 pre) b
  have marked := hW c (mem_writesOf.mpr ⟨m, hw, hc⟩)
  obtain ⟨l, h1, h2, h3, _⟩ := run_spec k post (commit k (run k w0 pre) b)
  rw [e1, e2]
  exact ⟨l, h1, h2 c marked hk, fun h => h3 h c marked hk⟩

/-- every batch that holds a change is followed by a later batch that holds a pass -/
def Requested : List (List Item) → Prop
  | [] => True
  | b :: rest => ((∃ m, Item.write m ∈ b) → ∃ b' ∈ rest, Item.pass ∈ b') ∧ Requested rest

theorem Requested.at {pre : List (List Item)} {b : List Item} {post : List (List Item)}
    (h : Requested (pre ++ b :: post)) (m : List Cell) (hw : Item.write m ∈ b) :
    ∃ b' ∈ post, Item.pass ∈ b' := by
  induction pre with
  | nil => exact h.1 ⟨m, hw⟩
  | cons x xs ih => exact ih h.2

@[simp] theorem commit_write (k : Ent → Bool) (w : W) (m : List Cell) :
    commit k w [.write m] = { marks := w.marks ++ m, events := w.events } := by
  simp [commit, runItems]

@[simp] theorem commit_pass (w : W) :
    commit allKnown w [.pass] = { marks := [], events := w.events ++ [w.marks.filter fun c => allKnown c.ent] } := by
  simp [commit, runItems, passW]

/-- an action that may precede the closing requests of an operation: a change that marks every cell it touches,
    or a room event -/
def GoodW : Act → Prop
  | .write t m => ∀ c, c ∈ t → c ∈ m
  | .roomEv _ => True
  | _ => False

/-- every change marks what it touches and, if it touches something, a recompute request follows it
    with no stream marker in between or after -/
def WR : List Act → Prop
  | [] => True
  | .write t m :: B => (∀ c, c ∈ t → c ∈ m) ∧ (t ≠ [] → Act.pass ∈ B ∧ Act.mark ∉ B) ∧ WR B
  | _ :: B => WR B

/-- `c` is in a data-changed event of `evs` after which no stream marker comes -/
def Announced (evs : List Ev) (c : Cell) : Prop :=
  ∃ pre cells post, evs = pre ++ Ev.data cells :: post ∧ c ∈ cells ∧ Ev.mark ∉ post

theorem Announced.cons {evs : List Ev} {c : Cell} (e : Ev) (h : Announced evs c) : Announced (e :: evs) c := by
  obtain ⟨pre, cells, post, h1, h2, h3⟩ := h
  exact ⟨e :: pre, cells, post, by simp [h1], h2, h3⟩

theorem mem_execActs_mark (acts : List Act) : ∀ (s : Site), Ev.mark ∈ (execActs s acts).2 ↔ Act.mark ∈ acts := by
  induction acts with
  | nil => simp [execActs]
  | cons a rest ih => intro s; cases a <;> simp [execActs, ih]

theorem mem_execActs_roomEv (acts : List Act) (d : RoomDef) :
    ∀ (s : Site), Ev.roomEv d ∈ (execActs s acts).2 ↔ Act.roomEv d ∈ acts := by
  induction acts with
  | nil => simp [execActs]
  | cons a rest ih => intro s; cases a <;> simp [execActs, ih]

theorem execActs_marked (acts : List Act) : ∀ (s : Site) (c : Cell), c ∈ s.w.marks →
    Act.pass ∈ acts → Act.mark ∉ acts → Announced (execActs s acts).2 c := by
  induction acts with
  | nil => intro s c _ h; cases h
  | cons a rest ih =>
    intro s c hc hp hm
    have hr : Act.mark ∉ rest := fun h' => hm (List.mem_cons_of_mem _ h')
    have hp' : a ≠ .pass → Act.pass ∈ rest := fun ha => (List.mem_cons.mp hp).resolve_left (ha ·.symm)
    cases a with
    | write t m => exact ih _ c (List.mem_append_left _ hc) (hp' nofun) hr
    | pass => exact ⟨[], _, _, rfl, List.mem_filter.mpr ⟨hc, rfl⟩, mt (mem_execActs_mark rest _).mp hr⟩
    | roomEv d => exact (ih s c hc (hp' nofun) hr).cons _
    | mark => exact absurd List.mem_cons_self hm

theorem execActs_announces (acts : List Act) : ∀ (s : Site), WR acts →
    ∀ c, c ∈ touchedOf acts → Announced (execActs s acts).2 c := by
  induction acts with
  | nil => intro s _ c h; cases h
  | cons a rest ih =>
    intro s hw c hc
    cases a with
    | write t m =>
      obtain ⟨h1, h2, h3⟩ := hw
      rcases List.mem_append.mp hc with h | h
      · obtain ⟨hp, hm⟩ := h2 (List.ne_nil_of_mem h)
        exact execActs_marked rest _ c (List.mem_append_right _ (h1 c h)) hp hm
      · exact ih _ h3 c h
    | pass => exact (ih _ hw c hc).cons _
    | roomEv d => exact (ih _ hw c hc).cons _
    | mark => exact (ih _ hw c hc).cons _

theorem WR_replicate_pass : ∀ k, WR (List.replicate k Act.pass)
  | 0 => trivial
  | k + 1 => WR_replicate_pass k

theorem WR_good_passes (l : List Act) (k : Nat) (hk : 0 < k) (hg : ∀ a, a ∈ l → GoodW a) :
    WR (l ++ List.replicate k Act.pass) := by
  induction l with
  | nil => exact WR_replicate_pass k
  | cons a rest ih =>
    have hrest := ih (fun a ha => hg a (List.mem_cons_of_mem _ ha))
    have ha := hg a List.mem_cons_self
    cases a with
    | write t m =>
      refine ⟨ha, fun _ => ⟨?_, fun hm => ?_⟩, hrest⟩
      · exact List.mem_append_right _ (List.mem_replicate.mpr ⟨Nat.ne_of_gt hk, rfl⟩)
      · rcases List.mem_append.mp hm with h | h
        · exact hg _ (List.mem_cons_of_mem _ h)
        · cases (List.mem_replicate.mp h).2
    | roomEv d => exact hrest
    | pass => exact ha.elim
    | mark => exact ha.elim

theorem WR_roomEvs (l : List Act) (h : ∀ a, a ∈ l → ∃ d, a = .roomEv d) : WR l := by
  induction l with
  | nil => trivial
  | cons a rest ih =>
    obtain ⟨d, rfl⟩ := h a List.mem_cons_self
    exact ih (fun a ha => h a (List.mem_cons_of_mem _ ha))

end Discret.Events
