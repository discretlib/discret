import DiscretModel.Model.Date
/-! Lemmas about the day arithmetic of `date_utils.rs`: flooring to a multiple of a positive `D` (facts of `/` and
`%`), `clamp` against bounds that stay symbolic, and the few facts about the constants that are used. -/
namespace Discret.Date

section floor
variable {D : Int}

theorem sub_emod_eq (c D : Int) : c - c % D = c / D * D := by
  have := Int.mul_ediv_add_emod c D
  rw [Int.mul_comm] at this; omega

theorem sub_emod_le (hD : 0 < D) (c : Int) : c - c % D ≤ c ∧ c < c - c % D + D := by
  have := Int.emod_nonneg c (Int.ne_of_gt hD)
  have := Int.emod_lt_of_pos c hD
  omega

theorem sub_emod_mono (hD : 0 < D) {c d : Int} (h : c ≤ d) : c - c % D ≤ d - d % D := by
  rw [sub_emod_eq, sub_emod_eq]
  exact Int.mul_le_mul_of_nonneg_right (Int.ediv_le_ediv hD h) (Int.le_of_lt hD)

theorem sub_emod_idem (c D : Int) : (c - c % D) - (c - c % D) % D = c - c % D := by
  rw [sub_emod_eq c, Int.mul_emod_left]; omega

theorem sub_emod_add (c D : Int) : (c + D) - (c + D) % D = c - c % D + D := by
  rw [Int.add_emod_right]; omega

theorem window_iff_ediv_eq (hD : 0 < D) (c u : Int) : (c - c % D ≤ u ∧ u < c - c % D + D) ↔ u / D = c / D := by
  have h1 : c / D * D ≤ u ↔ c / D ≤ u / D := (Int.le_ediv_iff_mul_le hD).symm
  have h2 : u < (c / D + 1) * D ↔ u / D < c / D + 1 := (Int.ediv_lt_iff_lt_mul hD).symm
  rw [sub_emod_eq, show c / D * D + D = (c / D + 1) * D by rw [Int.add_mul, Int.one_mul], h1, h2,
    Int.lt_add_one_iff]
  exact ⟨fun h => Int.le_antisymm h.2 h.1, fun h => ⟨Int.le_of_eq h.symm, Int.le_of_eq h⟩⟩

theorem sub_emod_eq_iff (hD : 0 < D) (c c' : Int) : c - c % D = c' - c' % D ↔ c / D = c' / D := by
  rw [sub_emod_eq, sub_emod_eq]
  exact Int.mul_eq_mul_right_iff (Int.ne_of_gt hD)

end floor

theorem dayMs_pos : 0 < dayMs := by decide
theorem minMs_le_maxMs : minMs ≤ maxMs := by decide

/-- the lower bound of chrono's range is a midnight -/
theorem floorDay_min : floorDay minMs = minMs := by decide

theorem floorDay_floorDay (c : Int) : floorDay (floorDay c) = floorDay c := sub_emod_idem c dayMs

theorem floorDay_le (c : Int) : floorDay c ≤ c ∧ c < floorDay c + dayMs := sub_emod_le dayMs_pos c

theorem floorDay_eq (c : Int) : floorDay c = (c / dayMs) * dayMs := sub_emod_eq c dayMs

theorem floorDay_mono {c d : Int} (h : c ≤ d) : floorDay c ≤ floorDay d := sub_emod_mono dayMs_pos h

/-- the last representable millisecond is the last one of its day -/
theorem floorDay_max : floorDay maxMs + dayMs = maxMs + 1 := by decide

theorem clamp_cases (t : Int) :
    (t < minMs ∧ clamp t = minMs) ∨ (maxMs < t ∧ clamp t = maxMs) ∨ (minMs ≤ t ∧ t ≤ maxMs ∧ clamp t = t) := by
  unfold clamp
  by_cases h1 : t < minMs
  · exact Or.inl ⟨h1, if_pos h1⟩
  · by_cases h2 : maxMs < t
    · exact Or.inr (Or.inl ⟨h2, by rw [if_neg h1, if_pos h2]⟩)
    · exact Or.inr (Or.inr ⟨Int.not_lt.mp h1, Int.not_lt.mp h2, by rw [if_neg h1, if_neg h2]⟩)

theorem clamp_of_bounds {x : Int} (h1 : minMs ≤ x) (h2 : x ≤ maxMs) : clamp x = x := by
  rw [clamp, if_neg (Int.not_lt.mpr h1), if_neg (Int.not_lt.mpr h2)]

theorem clamp_of_inRange {t : Int} (h : InRange t) : clamp t = t :=
  clamp_of_bounds h.1 (Int.le_trans (Int.le_add_of_nonneg_right (Int.le_of_lt dayMs_pos)) h.2)

theorem clamp_bounds (t : Int) : minMs ≤ clamp t ∧ clamp t ≤ maxMs := by
  rcases clamp_cases t with ⟨_, e⟩ | ⟨_, e⟩ | ⟨h1, h2, e⟩ <;> rw [e]
  · exact ⟨Int.le_refl _, minMs_le_maxMs⟩
  · exact ⟨minMs_le_maxMs, Int.le_refl _⟩
  · exact ⟨h1, h2⟩

theorem clamp_mono {t u : Int} (h : t ≤ u) : clamp t ≤ clamp u := by
  have := minMs_le_maxMs
  unfold clamp; omega

theorem date_of_inRange {t : Int} (h : InRange t) : date t = t - t % dayMs := by
  rw [date, clamp_of_inRange h, floorDay]

theorem dateNextDay_of_inRange {t : Int} (h : InRange t) : dateNextDay t = date t + dayMs := by
  rw [dateNextDay, date, clamp_of_inRange h, if_pos h.2]
  exact sub_emod_add t dayMs

end Discret.Date
