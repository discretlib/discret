import DiscretModel.Lemmas.Room
import DiscretModel.Model.RoomBuild
/-
The construction paths of a room definition (`Model/RoomBuild.lean`), for C10. Every path — `parseRoom` (reload,
import), `validate` + `storeMutation` (local mutation) — establishes or preserves `AgreesOrd r rr`: the in-memory room
`r` holds exactly the entries of the stored rows `rr`, list by list, in some order, its groups in the order of the
group rows (`Forall2 GroupAgrees`; this is what gives equal id lists, hence distinct group ids of the rows). `Agrees`
forgets the order of the groups (`Matched GroupAgrees`), as `SameRows` does between two stored rooms
(`Matched GroupSame`), and is what the end statement speaks of: two well-formed rooms agreeing with the same rows
decide the same when ties are harmless (`sameAt_of_agrees`). Replay in ascending date order succeeds whenever the
group ids are distinct (`parseRoom_sorted`). The loops that fill one history list (`addUsers`, `addRights`,
`add*List`) are all `replay` of a checked append, and are treated there.
-/
namespace Discret.RoomBuild
open Discret.Room

inductive Forall2 {α β : Type} (R : α → β → Prop) : List α → List β → Prop
  | nil : Forall2 R [] []
  | cons {a b l₁ l₂} : R a b → Forall2 R l₁ l₂ → Forall2 R (a :: l₁) (b :: l₂)

/-- every element of either list has a partner in the other (order and multiplicity forgotten) -/
def Matched {α β : Type} (R : α → β → Prop) (l₁ : List α) (l₂ : List β) : Prop :=
  (∀ a ∈ l₁, ∃ b ∈ l₂, R a b) ∧ (∀ b ∈ l₂, ∃ a ∈ l₁, R a b)

/-- `AuthsRel` of the room lemmas is `Matched` with the ids equal -/
theorem authsRel_iff_matched {P : Auth → Auth → Prop} {l₁ l₂ : List Auth} :
    AuthsRel P l₁ l₂ ↔ Matched (fun a b => b.id = a.id ∧ P a b) l₁ l₂ := Iff.rfl

section
variable {α β γ : Type} {R : α → β → Prop} {l₁ : List α} {l₂ : List β}

namespace Matched

theorem of_perm {R : α → α → Prop} (hr : ∀ a, R a a) {l l' : List α} (h : l.Perm l') : Matched R l l' :=
  ⟨fun a ha => ⟨a, h.mem_iff.mp ha, hr a⟩, fun a ha => ⟨a, h.mem_iff.mpr ha, hr a⟩⟩

theorem map_left {R : β → α → Prop} {f : α → β} (hr : ∀ a, R (f a) a) (l : List α) : Matched R (l.map f) l :=
  ⟨fun _ hb => have ⟨a, ha, e⟩ := List.mem_map.mp hb; ⟨a, ha, e ▸ hr a⟩,
   fun a ha => ⟨f a, List.mem_map_of_mem ha, hr a⟩⟩

theorem flip (h : Matched R l₁ l₂) : Matched (fun b a => R a b) l₂ l₁ := ⟨h.2, h.1⟩

theorem imp {S : α → β → Prop} (h : Matched R l₁ l₂) (hi : ∀ a ∈ l₁, ∀ b ∈ l₂, R a b → S a b) :
    Matched S l₁ l₂ :=
  ⟨fun a ha => have ⟨b, hb, r⟩ := h.1 a ha; ⟨b, hb, hi a ha b hb r⟩,
   fun b hb => have ⟨a, ha, r⟩ := h.2 b hb; ⟨a, ha, hi a ha b hb r⟩⟩

theorem trans {S : β → γ → Prop} {l₃ : List γ} (h₁ : Matched R l₁ l₂) (h₂ : Matched S l₂ l₃) :
    Matched (fun a c => ∃ b, R a b ∧ S b c) l₁ l₃ :=
  ⟨fun a ha => have ⟨b, hb, r⟩ := h₁.1 a ha; have ⟨c, hc, s⟩ := h₂.1 b hb; ⟨c, hc, b, r, s⟩,
   fun c hc => have ⟨b, hb, s⟩ := h₂.2 c hc; have ⟨a, ha, r⟩ := h₁.2 b hb; ⟨a, ha, b, r, s⟩⟩

end Matched

namespace Forall2

theorem refl {R : α → α → Prop} (hr : ∀ a, R a a) : ∀ l : List α, Forall2 R l l
  | [] => .nil
  | a :: l => .cons (hr a) (refl hr l)

theorem mem_left (h : Forall2 R l₁ l₂) : ∀ a ∈ l₁, ∃ b ∈ l₂, R a b := by
  induction h with
  | nil => intro a ha; cases ha
  | cons hab _ ih =>
    intro x hx
    rcases List.mem_cons.mp hx with rfl | hx
    · exact ⟨_, List.mem_cons_self .., hab⟩
    · obtain ⟨b, hb, hr⟩ := ih x hx; exact ⟨b, List.mem_cons_of_mem _ hb, hr⟩

theorem flip (h : Forall2 R l₁ l₂) : Forall2 (fun b a => R a b) l₂ l₁ := by
  induction h with
  | nil => exact .nil
  | cons hab _ ih => exact .cons hab ih

theorem matched (h : Forall2 R l₁ l₂) : Matched R l₁ l₂ := ⟨h.mem_left, h.flip.mem_left⟩

theorem imp_mem {S : α → β → Prop} (h : Forall2 R l₁ l₂) (hi : ∀ a, ∀ b ∈ l₂, R a b → S a b) :
    Forall2 S l₁ l₂ := by
  induction h with
  | nil => exact .nil
  | cons hab _ ih =>
    exact .cons (hi _ _ (List.mem_cons_self ..) hab) (ih fun a b hb => hi a b (List.mem_cons_of_mem _ hb))

theorem of_map_right {S : α → γ → Prop} {f : γ → β} {l₂ : List γ} (hi : ∀ a b, R a (f b) → S a b) :
    ∀ {l₁ : List α}, Forall2 R l₁ (l₂.map f) → Forall2 S l₁ l₂ := by
  induction l₂ with
  | nil => intro _ h; cases h; exact .nil
  | cons b t ih => intro _ h; cases h with | cons hab hrest => exact .cons (hi _ _ hab) (ih hrest)

theorem append {l₁' : List α} {l₂' : List β} (h : Forall2 R l₁ l₂) (h' : Forall2 R l₁' l₂') :
    Forall2 R (l₁ ++ l₁') (l₂ ++ l₂') := by
  induction h with
  | nil => exact h'
  | cons hab _ ih => exact .cons hab ih

theorem map (h : Forall2 R l₁ l₂) (f : α → α) (g : β → β)
    (hfg : ∀ a ∈ l₁, ∀ b ∈ l₂, R a b → R (f a) (g b)) : Forall2 R (l₁.map f) (l₂.map g) := by
  induction h with
  | nil => exact .nil
  | cons hab _ ih =>
    refine .cons (hfg _ (List.mem_cons_self ..) _ (List.mem_cons_self ..) hab) (ih ?_)
    intro a ha b hb
    exact hfg a (List.mem_cons_of_mem _ ha) b (List.mem_cons_of_mem _ hb)

theorem map_eq {f : α → γ} {g : β → γ} (h : Forall2 R l₁ l₂) (hfg : ∀ a b, R a b → f a = g b) :
    l₁.map f = l₂.map g := by
  induction h with
  | nil => rfl
  | cons hab _ ih => rw [List.map_cons, List.map_cons, hfg _ _ hab, ih]

end Forall2
end

@[simp] theorem toRight_entity (raw : Bool) (r : RightRow) : (r.toRight raw).entity = r.entity := by
  rw [RightRow.toRight, apply_ite Right.entity]; exact ite_self _

@[simp] theorem toRight_validFrom (raw : Bool) (r : RightRow) : (r.toRight raw).validFrom = r.date := by
  rw [RightRow.toRight, apply_ite Right.validFrom]; exact ite_self _

theorem toRight_raw_eq (raw : Bool) {r : RightRow} (h : r.mutAll = true → r.mutSelf = true) :
    r.toRight raw = r.toRight false := by
  cases raw with
  | false => rfl
  | true =>
    -- `Right.new` stores `mutSelf || mutAll`, which is `mutSelf` when `mutAll` implies it
    have hor : (r.mutSelf || r.mutAll) = r.mutSelf := by
      cases ha : r.mutAll with
      | false => exact Bool.or_false _
      | true => rw [h ha]; rfl
    simp only [RightRow.toRight, Bool.false_eq_true, if_false, if_true, Right.new, hor]

/-- the shape of every replay loop of the model (`addUsers`, `addRights`, the four `add*List`): the entries go one
    by one through a checked append, and the first refusal ends the loop -/
def replay {ε σ β : Type} (step : σ → β → Except ε σ) : σ → List β → Except ε σ
  | s, [] => .ok s
  | s, b :: t =>
    match step s b with
    | .ok s' => replay step s' t
    | .error e => .error e

section
variable {ε σ β : Type} {step : σ → β → Except ε σ} {s s' : σ} {bs : List β}

/-- `ext s bs` is `s` with `bs` appended to the list the loop fills -/
theorem replay_ok {ext : σ → List β → σ} {P : σ → Prop} (hnil : ∀ s, ext s [] = s)
    (hcons : ∀ s b bs, ext (ext s [b]) bs = ext s (b :: bs))
    (hstep : ∀ {s b s'}, step s b = .ok s' → s' = ext s [b] ∧ (P s → P s')) (h : replay step s bs = .ok s') :
    s' = ext s bs ∧ (P s → P s') := by
  induction bs generalizing s with
  | nil => cases h; exact ⟨(hnil _).symm, id⟩
  | cons b t ih =>
    simp only [replay] at h
    split at h
    · rename_i s1 h1
      obtain ⟨rfl, hp⟩ := hstep h1
      obtain ⟨rfl, hw⟩ := ih h
      exact ⟨hcons .., hw ∘ hp⟩
    · cases h

theorem replay_error {e0 e : ε} (hstep : ∀ {s b e}, step s b = .error e → e = e0)
    (h : replay step s bs = .error e) : e = e0 := by
  induction bs generalizing s with
  | nil => cases h
  | cons b t ih =>
    simp only [replay] at h
    split at h
    · exact ih h
    · rename_i h1; cases h; exact hstep h1

end

theorem replay_of_gwf {ε β : Type} (key : β → Nat) (date : β → Int) {step : List β → β → Except ε (List β)}
    (hstep : ∀ {l b}, gaddOk key date l b → step l b = .ok (l ++ [b])) {l bs : List β}
    (h : GWF key date (l ++ bs)) : replay step l bs = .ok (l ++ bs) := by
  induction bs generalizing l with
  | nil => rw [replay, List.append_nil]
  | cons b t ih =>
    rw [List.append_cons] at h ⊢
    rw [replay, hstep (gaddOk_of_gwf _ _ (List.pairwise_append.mp h).1)]
    exact ih h

theorem addUsers_eq (l : List User) (rows : List UserRow) :
    addUsers l rows = replay addUserEntry l (rows.map UserRow.toUser) := by
  fun_induction addUsers l rows <;> simp [replay, *]

theorem addRights_eq (raw : Bool) (l : List Right) (rows : List RightRow) :
    addRights raw l rows = replay addRightEntry l (rows.map (RightRow.toRight raw)) := by
  fun_induction addRights raw l rows <;> simp [replay, *]

theorem addUsers_ok {l l' : List User} {rows : List UserRow} (h : addUsers l rows = .ok l') :
    l' = l ++ rows.map UserRow.toUser ∧ (UserWF l → UserWF l') :=
  replay_ok List.append_nil (fun l b => List.append_assoc l [b])
    (fun h1 => ⟨(addUserEntry_ok h1).1, (addUserEntry_wf · h1)⟩) (addUsers_eq .. ▸ h)

theorem addUsers_error {l : List User} {rows : List UserRow} {e : Err} (h : addUsers l rows = .error e) :
    e = .invalidUserDate :=
  replay_error (fun h1 => (addUserEntry_error h1).1) (addUsers_eq .. ▸ h)

theorem addUsers_of_wf {l : List User} {rows : List UserRow} (h : UserWF (l ++ rows.map UserRow.toUser)) :
    addUsers l rows = .ok (l ++ rows.map UserRow.toUser) :=
  (addUsers_eq ..).trans (replay_of_gwf _ _ addUserEntry_of_ok h)

theorem addRights_ok {raw : Bool} {l l' : List Right} {rows : List RightRow}
    (h : addRights raw l rows = .ok l') :
    l' = l ++ rows.map (RightRow.toRight raw) ∧ (RightWF l → RightWF l') :=
  replay_ok List.append_nil (fun l b => List.append_assoc l [b])
    (fun h1 => ⟨(addRightEntry_ok h1).1, (addRightEntry_wf · h1)⟩) (addRights_eq .. ▸ h)

theorem addRights_error {raw : Bool} {l : List Right} {rows : List RightRow} {e : Err}
    (h : addRights raw l rows = .error e) : e = .invalidRightDate :=
  replay_error (fun h1 => (addRightEntry_error h1).1) (addRights_eq .. ▸ h)

theorem addRights_of_wf {raw : Bool} {l : List Right} {rows : List RightRow}
    (h : RightWF (l ++ rows.map (RightRow.toRight raw))) :
    addRights raw l rows = .ok (l ++ rows.map (RightRow.toRight raw)) :=
  (addRights_eq ..).trans (replay_of_gwf _ _ addRightEntry_of_ok h)

structure GroupParsed (raw : Bool) (a : Auth) (g : GroupRow) : Prop where
  id : a.id = g.gid
  users : a.users = g.users.map UserRow.toUser
  userAdmins : a.userAdmins = g.userAdmins.map UserRow.toUser
  rights : a.rights = g.rights.map (RightRow.toRight raw)
  wf : a.WF

theorem parseGroup_ok {raw : Bool} {g : GroupRow} {a : Auth} (h : parseGroup raw g = .ok a) :
    GroupParsed raw a g := by
  unfold parseGroup at h
  split at h
  · cases h
  · rename_i rights hr
    split at h
    · cases h
    · rename_i users hu
      split at h
      · cases h
      · rename_i uas ha
        cases h
        obtain ⟨e1, w1⟩ := addRights_ok hr
        obtain ⟨e2, w2⟩ := addUsers_ok hu
        obtain ⟨e3, w3⟩ := addUsers_ok ha
        simp only [List.nil_append] at e1 e2 e3
        exact ⟨rfl, e2, e3, e1, ⟨w2 userWF_nil, w3 userWF_nil, w1 rightWF_nil⟩⟩

theorem parseGroup_error {raw : Bool} {g : GroupRow} {e : Err} (h : parseGroup raw g = .error e) :
    e = .invalidUserDate ∨ e = .invalidRightDate := by
  unfold parseGroup at h
  split at h
  · rename_i e' hr; cases h; exact Or.inr (addRights_error hr)
  · split at h
    · rename_i e' hu; cases h; exact Or.inl (addUsers_error hu)
    · split at h
      · rename_i e' ha; cases h; exact Or.inl (addUsers_error ha)
      · cases h

theorem parseGroups_ok {raw : Bool} {r r' : Room} {gs : List GroupRow} (h : parseGroups raw r gs = .ok r') :
    r'.id = r.id ∧ r'.admins = r.admins ∧
    ∃ as, r'.auths = r.auths ++ as ∧ Forall2 (GroupParsed raw) as gs ∧ (r.WF → r'.WF) := by
  induction gs generalizing r with
  | nil => cases h; exact ⟨rfl, rfl, [], (List.append_nil _).symm, .nil, id⟩
  | cons g t ih =>
    simp only [parseGroups] at h
    split at h
    · cases h
    · rename_i a ha
      split at h
      · cases h
      · rename_i r1 h1
        obtain ⟨i1, i3, as, e, f, w⟩ := ih h
        obtain ⟨_, rfl⟩ := Room.addAuth_ok h1
        have hp := parseGroup_ok ha
        exact ⟨i1, i3, a :: as, e.trans (List.append_assoc _ [a] as), .cons hp f,
          fun hw => w (Room.addAuth_wf hw hp.wf h1)⟩

theorem parseRoom_ok {raw : Bool} {rr : RoomRow} {r : Room} (h : parseRoom raw rr = .ok r) :
    r.id = rr.rid ∧ r.admins = rr.admins.map UserRow.toUser ∧
    Forall2 (GroupParsed raw) r.auths rr.groups ∧ r.WF := by
  unfold parseRoom at h
  split at h
  · cases h
  · rename_i admins ha
    obtain ⟨e, w⟩ := addUsers_ok ha
    obtain ⟨i1, i3, as, e2, f, hw⟩ := parseGroups_ok h
    exact ⟨i1, i3.trans e, e2 ▸ f, hw ⟨w userWF_nil, nofun, List.nodup_nil⟩⟩

theorem Room.addAuth_of_fresh {r : Room} {a : Auth} (h : ∀ x ∈ r.auths, x.id ≠ a.id) :
    r.addAuth a = .ok { r with auths := r.auths ++ [a] } := by
  rw [Room.addAuth, if_neg]
  intro hany
  obtain ⟨x, hx, hxe⟩ := List.any_eq_true.mp hany
  exact h x hx (of_decide_eq_true hxe)

theorem nodup_ids_step {l : List Auth} {a : Auth} {g : GroupRow} {t : List GroupRow} (hid : a.id = g.gid)
    (hn : (l.map (·.id) ++ (g :: t).map (·.gid)).Nodup) :
    (∀ x ∈ l, x.id ≠ a.id) ∧ ((l ++ [a]).map (·.id) ++ t.map (·.gid)).Nodup := by
  refine ⟨fun x hx e => ?_, ?_⟩
  · exact (List.nodup_append.mp hn).2.2 x.id (List.mem_map.mpr ⟨x, hx, rfl⟩) g.gid (List.mem_cons_self ..)
      (e.trans hid)
  · rw [List.map_append, List.map_cons, List.map_nil, hid, List.append_assoc]
    exact hn

theorem parseGroups_error {raw : Bool} {r : Room} {gs : List GroupRow} {e : Err}
    (h : parseGroups raw r gs = .error e) (hn : ((r.auths.map (·.id)) ++ gs.map (·.gid)).Nodup) :
    e = .invalidUserDate ∨ e = .invalidRightDate := by
  induction gs generalizing r with
  | nil => cases h
  | cons g t ih =>
    simp only [parseGroups] at h
    split at h
    · rename_i e' ha; cases h; exact parseGroup_error ha
    · rename_i a ha
      obtain ⟨hfresh, hn'⟩ := nodup_ids_step (parseGroup_ok ha).id hn
      rw [Room.addAuth_of_fresh hfresh] at h
      exact ih h hn'

theorem parseRoom_error {raw : Bool} {rr : RoomRow} {e : Err} (h : parseRoom raw rr = .error e)
    (hn : (rr.groups.map (·.gid)).Nodup) : e = .invalidUserDate ∨ e = .invalidRightDate := by
  unfold parseRoom at h
  split at h
  · rename_i e' ha; cases h; exact Or.inl (addUsers_error ha)
  · exact parseGroups_error h (by simpa using hn)

theorem insertBy_eq_ordInsert : @insertBy = @ordInsert := by
  funext α le x l
  induction l with
  | nil => rfl
  | cons y t ih => rw [insertBy, ordInsert, ih]

theorem sortBy_eq_insertionSort : @sortBy = @insertionSort := by
  funext α le l
  rw [sortBy, insertionSort, insertBy_eq_ordInsert]

theorem sortBy_perm {α : Type} (le : α → α → Bool) (l : List α) : (sortBy le l).Perm l :=
  sortBy_eq_insertionSort ▸ insertionSort_perm le l

theorem sortUsers_perm (nf : Bool) (l : List UserRow) : (sortUsers nf l).Perm l := by
  cases nf <;> exact sortBy_perm _ _

theorem sortRights_perm (nf : Bool) (l : List RightRow) : (sortRights nf l).Perm l := by
  cases nf <;> exact sortBy_perm _ _

theorem sortBy_date_asc {α : Type} (date : α → Int) (l : List α) :
    (sortBy (fun a b => decide (date a ≤ date b)) l).Pairwise fun a b => date a ≤ date b :=
  sortBy_eq_insertionSort ▸
    (insertionSort_sorted _ (fun a b => by simp only [decide_eq_false_iff_not, decide_eq_true_eq]; omega)
      (fun a b c => by simp only [decide_eq_true_eq]; omega) l).imp of_decide_eq_true

theorem byTie_perm {α : Type} (id : α → Nat) (t : TieOrder) (l : List α) : (byTie id t l).Perm l := by
  cases t with
  | uid rev => cases rev <;> exact sortBy_perm _ _
  | seq s => exact sortBy_perm _ _

theorem readUsers_perm (nf : Bool) (t : TieOrder) (l : List UserRow) : (readUsers nf t l).Perm l :=
  (sortUsers_perm nf _).trans (byTie_perm _ t l)

theorem readRights_perm (nf : Bool) (t : TieOrder) (l : List RightRow) : (readRights nf t l).Perm l :=
  (sortRights_perm nf _).trans (byTie_perm _ t l)

theorem readUsers_asc (t : TieOrder) (l : List UserRow) :
    (readUsers false t l).Pairwise fun a b => a.date ≤ b.date := sortBy_date_asc UserRow.date _

theorem readRights_asc (t : TieOrder) (l : List RightRow) :
    (readRights false t l).Pairwise fun a b => a.date ≤ b.date := sortBy_date_asc RightRow.date _

theorem groupsByUid_perm (rev : Bool) (rr : RoomRow) : (groupsByUid rev rr).groups.Perm rr.groups :=
  byTie_perm _ _ _

theorem readRoom_gids (nf : Bool) (t : TieOrder) (rr : RoomRow) :
    (readRoom nf t rr).groups.map (·.gid) = rr.groups.map (·.gid) := by
  simp only [readRoom, List.map_map]
  apply List.map_congr_left
  intro g _; rfl

theorem exportRoom_gids_perm (df : Defects) (rr : RoomRow) :
    ((exportRoom df rr).groups.map (·.gid)).Perm (rr.groups.map (·.gid)) :=
  readRoom_gids df.newestFirstReplay (.uid df.uidOrderReversed) rr ▸ (groupsByUid_perm _ _).map _

theorem userWF_of_asc {l : List UserRow} (h : l.Pairwise fun a b => a.date ≤ b.date) :
    UserWF (l.map UserRow.toUser) := by
  refine List.pairwise_map.mpr (h.imp ?_)
  intro a b hab _; exact hab

theorem rightWF_of_asc {raw : Bool} {l : List RightRow} (h : l.Pairwise fun a b => a.date ≤ b.date) :
    RightWF (l.map (RightRow.toRight raw)) := by
  refine List.pairwise_map.mpr (h.imp ?_)
  intro a b hab _; simpa using hab

structure GroupOrdered (raw : Bool) (g : GroupRow) : Prop where
  rights : RightWF (g.rights.map (RightRow.toRight raw))
  users : UserWF (g.users.map UserRow.toUser)
  userAdmins : UserWF (g.userAdmins.map UserRow.toUser)

theorem parseGroup_of_wf {raw : Bool} {g : GroupRow} (h : GroupOrdered raw g) :
    ∃ a, parseGroup raw g = .ok a := by
  unfold parseGroup
  rw [addRights_of_wf (by simpa using h.rights)]
  simp only
  rw [addUsers_of_wf (by simpa using h.users)]
  simp only
  rw [addUsers_of_wf (by simpa using h.userAdmins)]
  exact ⟨_, rfl⟩

theorem parseGroups_of_wf (raw : Bool) (r : Room) (gs : List GroupRow)
    (hn : ((r.auths.map (·.id)) ++ gs.map (·.gid)).Nodup) (hg : ∀ g ∈ gs, GroupOrdered raw g) :
    ∃ r', parseGroups raw r gs = .ok r' := by
  induction gs generalizing r with
  | nil => exact ⟨r, rfl⟩
  | cons g t ih =>
    obtain ⟨a, ha⟩ := parseGroup_of_wf (hg g (List.mem_cons_self ..))
    obtain ⟨hfresh, hn'⟩ := nodup_ids_step (parseGroup_ok ha).id hn
    simp only [parseGroups, ha, Room.addAuth_of_fresh hfresh]
    exact ih _ hn' fun x hx => hg x (List.mem_cons_of_mem _ hx)

theorem parseRoom_of_wf {raw : Bool} {rr : RoomRow} (hn : (rr.groups.map (·.gid)).Nodup)
    (ha : UserWF (rr.admins.map UserRow.toUser)) (hg : ∀ g ∈ rr.groups, GroupOrdered raw g) :
    ∃ r, parseRoom raw rr = .ok r := by
  unfold parseRoom
  rw [addUsers_of_wf (by simpa using ha)]
  exact parseGroups_of_wf raw _ rr.groups (by simpa using hn) hg

theorem sortGroup_asc_ordered (raw : Bool) (t : TieOrder) (g : GroupRow) :
    GroupOrdered raw (sortGroup false t g) :=
  ⟨rightWF_of_asc (readRights_asc t g.rights), userWF_of_asc (readUsers_asc t g.users),
   userWF_of_asc (readUsers_asc t g.userAdmins)⟩

theorem parseRoom_sorted (raw : Bool) (t : TieOrder) (rr : RoomRow)
    (hn : (rr.groups.map (·.gid)).Nodup) : ∃ r, parseRoom raw (readRoom false t rr) = .ok r := by
  apply parseRoom_of_wf
  · rw [readRoom_gids]; exact hn
  · exact userWF_of_asc (readUsers_asc t rr.admins)
  · intro g hg
    simp only [readRoom, List.mem_map] at hg
    obtain ⟨g0, _, rfl⟩ := hg
    exact sortGroup_asc_ordered raw t g0

theorem userWF_of_one {l : List UserRow} (h : ∀ a ∈ l, ∀ b ∈ l, a.key = b.key → a.date = b.date) :
    UserWF (l.map UserRow.toUser) :=
  List.pairwise_map.mpr (List.pairwise_of_forall_mem_list fun a ha b hb hk => Int.le_of_eq (h a ha b hb hk))

theorem rightWF_of_one {raw : Bool} {l : List RightRow}
    (h : ∀ a ∈ l, ∀ b ∈ l, a.entity = b.entity → a.date = b.date) : RightWF (l.map (RightRow.toRight raw)) :=
  List.pairwise_map.mpr (List.pairwise_of_forall_mem_list fun a ha b hb hk => by
    rw [toRight_entity, toRight_entity] at hk
    rw [toRight_validFrom, toRight_validFrom]
    exact Int.le_of_eq (h a ha b hb hk))

structure GroupAgrees (a : Auth) (g : GroupRow) : Prop where
  id : a.id = g.gid
  users : a.users.Perm (g.users.map UserRow.toUser)
  userAdmins : a.userAdmins.Perm (g.userAdmins.map UserRow.toUser)
  rights : a.rights.Perm (g.rights.map (RightRow.toRight false))

structure Agrees (r : Room) (rr : RoomRow) : Prop where
  admins : r.admins.Perm (rr.admins.map UserRow.toUser)
  fwd : ∀ a ∈ r.auths, ∃ g ∈ rr.groups, GroupAgrees a g
  bwd : ∀ g ∈ rr.groups, ∃ a ∈ r.auths, GroupAgrees a g

/-- ordered form of `Agrees`. Every path of the model keeps the groups of memory and of storage in the same
    order (creation order, or the order of the candidate) -/
structure AgreesOrd (r : Room) (rr : RoomRow) : Prop where
  admins : r.admins.Perm (rr.admins.map UserRow.toUser)
  groups : Forall2 GroupAgrees r.auths rr.groups

structure SameRows (x y : RoomRow) : Prop where
  admins : x.admins.Perm y.admins
  fwd : ∀ g ∈ x.groups, ∃ h ∈ y.groups, h.gid = g.gid ∧ g.users.Perm h.users ∧
    g.userAdmins.Perm h.userAdmins ∧ g.rights.Perm h.rights
  bwd : ∀ h ∈ y.groups, ∃ g ∈ x.groups, h.gid = g.gid ∧ g.users.Perm h.users ∧
    g.userAdmins.Perm h.userAdmins ∧ g.rights.Perm h.rights

/-- within one list two entries with the same key and the same date carry the same payload: the guard under which
    the order in which the storage returns rows of equal date (uid order, random in production) does not matter -/
structure TiesHarmless (rr : RoomRow) : Prop where
  admins : UserFunc (rr.admins.map UserRow.toUser)
  groups : ∀ g ∈ rr.groups, UserFunc (g.users.map UserRow.toUser) ∧
    UserFunc (g.userAdmins.map UserRow.toUser) ∧ RightFunc (g.rights.map (RightRow.toRight false))

theorem Agrees.matched {r : Room} {rr : RoomRow} (h : Agrees r rr) : Matched GroupAgrees r.auths rr.groups :=
  ⟨h.fwd, h.bwd⟩

theorem AgreesOrd.agrees {r : Room} {rr : RoomRow} (h : AgreesOrd r rr) : Agrees r rr :=
  ⟨h.admins, h.groups.matched.1, h.groups.matched.2⟩

def GroupSame (g h : GroupRow) : Prop :=
  h.gid = g.gid ∧ g.users.Perm h.users ∧ g.userAdmins.Perm h.userAdmins ∧ g.rights.Perm h.rights

namespace GroupSame

theorem refl (g : GroupRow) : GroupSame g g := ⟨rfl, .refl _, .refl _, .refl _⟩

theorem symm {g h : GroupRow} (s : GroupSame g h) : GroupSame h g :=
  ⟨s.1.symm, s.2.1.symm, s.2.2.1.symm, s.2.2.2.symm⟩

theorem trans {a b c : GroupRow} (h1 : GroupSame a b) (h2 : GroupSame b c) : GroupSame a c :=
  ⟨h2.1.trans h1.1, h1.2.1.trans h2.2.1, h1.2.2.1.trans h2.2.2.1, h1.2.2.2.trans h2.2.2.2⟩

end GroupSame

namespace SameRows

theorem matched {x y : RoomRow} (h : SameRows x y) : Matched GroupSame x.groups y.groups := ⟨h.fwd, h.bwd⟩

theorem of_matched {x y : RoomRow} (ha : x.admins.Perm y.admins) (hg : Matched GroupSame x.groups y.groups) :
    SameRows x y :=
  ⟨ha, hg.1, hg.2⟩

theorem refl (x : RoomRow) : SameRows x x := of_matched (.refl _) (.of_perm GroupSame.refl (.refl _))

theorem symm {x y : RoomRow} (h : SameRows x y) : SameRows y x :=
  of_matched h.admins.symm (h.matched.flip.imp fun _ _ _ _ => GroupSame.symm)

theorem trans {x y z : RoomRow} (h1 : SameRows x y) (h2 : SameRows y z) : SameRows x z :=
  of_matched (h1.admins.trans h2.admins)
    ((h1.matched.trans h2.matched).imp fun _ _ _ _ ⟨_, s1, s2⟩ => s1.trans s2)

end SameRows

theorem readRoom_sameRows (nf : Bool) (t : TieOrder) (rr : RoomRow) : SameRows (readRoom nf t rr) rr :=
  .of_matched (readUsers_perm _ _ _)
    (.map_left (fun _ => ⟨rfl, readUsers_perm _ _ _, readUsers_perm _ _ _, readRights_perm _ _ _⟩) _)

theorem sameRows_groupsByUid (b : Bool) (rr : RoomRow) : SameRows (groupsByUid b rr) rr :=
  .of_matched (.refl _) (.of_perm GroupSame.refl (groupsByUid_perm b rr))

theorem exportRoom_sameRows (df : Defects) (rr : RoomRow) : SameRows (exportRoom df rr) rr :=
  (sameRows_groupsByUid _ _).trans (readRoom_sameRows _ _ rr)

theorem UserFunc.perm {l₁ l₂ : List User} (hp : l₁.Perm l₂) (h : UserFunc l₁) : UserFunc l₂ :=
  fun u hu v hv => h u (hp.mem_iff.mpr hu) v (hp.mem_iff.mpr hv)

theorem RightFunc.perm {l₁ l₂ : List Right} (hp : l₁.Perm l₂) (h : RightFunc l₁) : RightFunc l₂ :=
  fun u hu v hv => h u (hp.mem_iff.mpr hu) v (hp.mem_iff.mpr hv)

theorem GroupParsed.agrees_of_normal {raw : Bool} {a : Auth} {g : GroupRow} (h : GroupParsed raw a g)
    (hn : ∀ x ∈ g.rights, x.mutAll = true → x.mutSelf = true) : GroupAgrees a g :=
  ⟨h.id, h.users ▸ .refl _, h.userAdmins ▸ .refl _,
   h.rights ▸ (List.map_congr_left fun x hx => toRight_raw_eq raw (hn x hx)) ▸ .refl _⟩

theorem GroupParsed.agrees {a : Auth} {g : GroupRow} (h : GroupParsed false a g) : GroupAgrees a g :=
  ⟨h.id, by rw [h.users], by rw [h.userAdmins], by rw [h.rights]⟩

theorem parseRoom_agreesOrd {rr : RoomRow} {r : Room} (h : parseRoom false rr = .ok r) :
    AgreesOrd r rr ∧ r.WF ∧ r.id = rr.rid := by
  obtain ⟨hid, ha, f, w⟩ := parseRoom_ok h
  exact ⟨⟨ha ▸ .refl _, f.imp_mem fun _ _ _ hp => hp.agrees⟩, w, hid⟩

/-- the parses with `raw = false`: reload with normalising rights, import of a new room, import on top of an
    earlier version -/
theorem parseRoom_agrees {rr : RoomRow} {r : Room} (h : parseRoom false rr = .ok r) : Agrees r rr ∧ r.WF :=
  have ⟨ha, w, _⟩ := parseRoom_agreesOrd h
  ⟨ha.agrees, w⟩

/-- the decisions are a function of the stored rows -/
theorem sameAt_of_agrees {r₁ r₂ : Room} {x y : RoomRow} (a1 : Agrees r₁ x) (a2 : Agrees r₂ y)
    (hs : SameRows x y) (w1 : r₁.WF) (w2 : r₂.WF) (ht : TiesHarmless x) (d : Int) : r₁.SameAt r₂ d := by
  have func : r₁.Func := by
    refine ⟨UserFunc.perm a1.admins.symm ht.admins, fun a ha => ?_⟩
    obtain ⟨g, hg, ga⟩ := a1.fwd a ha
    obtain ⟨f1, f2, f3⟩ := ht.groups g hg
    exact ⟨UserFunc.perm ga.users.symm f1, UserFunc.perm ga.userAdmins.symm f2, RightFunc.perm ga.rights.symm f3⟩
  -- a group of one room, its rows, the same rows on the other side, the group of the other room
  refine Room.sameAt_of_perm w1 w2 func (a1.admins.trans ((hs.admins.map _).trans a2.admins.symm))
    (authsRel_iff_matched.mpr (((a1.matched.trans hs.matched).trans a2.matched.flip).imp ?_)) d
  rintro a _ b _ ⟨h, ⟨g, ga, e, p1, p2, p3⟩, gb⟩
  exact ⟨by rw [gb.id, e, ga.id], ga.users.trans ((p1.map _).trans gb.users.symm),
    ga.userAdmins.trans ((p2.map _).trans gb.userAdmins.symm), ga.rights.trans ((p3.map _).trans gb.rights.symm)⟩

/-- a room agreeing with the rows `rr` and the parse of anything that holds the rows of the export of `rr` (the export
    itself, or what a merge makes of it), its groups in either uid order, decide the same -/
theorem sameAt_of_export {r r' : Room} {rr x : RoomRow} {df : Defects} {b : Bool} (ha : AgreesOrd r rr) (hw : r.WF)
    (hs : SameRows x (exportRoom df rr)) (hp : parseRoom false (groupsByUid b x) = .ok r') (ht : TiesHarmless rr)
    (d : Int) : r.SameAt r' d :=
  have ⟨ha', hw'⟩ := parseRoom_agrees hp
  sameAt_of_agrees ha.agrees ha'
    (((exportRoom_sameRows df rr).symm.trans hs.symm).trans (sameRows_groupsByUid b x).symm) hw hw' ht d

theorem forall2_ids {l₁ : List Auth} {l₂ : List GroupRow} (h : Forall2 GroupAgrees l₁ l₂) :
    l₁.map (·.id) = l₂.map (·.gid) :=
  h.map_eq fun _ _ hab => hab.id

theorem forall2_any_gid {l₁ : List Auth} {l₂ : List GroupRow} (h : Forall2 GroupAgrees l₁ l₂) (gid : Id) :
    l₂.any (·.gid = gid) = l₁.any (·.id = gid) := by
  have e := congrArg (List.any · (· = gid)) (forall2_ids h)
  simpa only [List.any_map, Function.comp_def] using e.symm

/-- the entries that `add*List` appends and whose rows `mkUserRows` / `mkRightRows` store, for one item of a `MutSpec` -/
def mkUser (d : Int) (p : Key × Bool) : User := { key := p.1, date := d, enabled := p.2 }
def mkRight (d : Int) (p : Ent × Bool × Bool) : Right := Right.new d p.1 p.2.1 p.2.2

theorem mkUserRows_toUser (author : Key) (d : Int) (n : Nat) (l : List (Key × Bool)) :
    (mkUserRows author d n l).map UserRow.toUser = l.map (mkUser d) := by
  induction l generalizing n with
  | nil => rfl
  | cons p t ih => obtain ⟨k, e⟩ := p; simp [mkUserRows, UserRow.toUser, mkUser, ih]

theorem mkRightRows_toRight (author : Key) (d : Int) (n : Nat) (l : List (Ent × Bool × Bool)) :
    (mkRightRows author d n l).map (RightRow.toRight false) = l.map (mkRight d) := by
  induction l generalizing n with
  | nil => rfl
  | cons p t ih => obtain ⟨e, s, a⟩ := p; simp [mkRightRows, RightRow.toRight, mkRight, ih]

theorem addAdminList_eq (d : Int) (r : Room) (l : List (Key × Bool)) :
    addAdminList d r l = replay Room.addAdmin r (l.map (mkUser d)) := by
  fun_induction addAdminList d r l <;> simp [replay, mkUser, *]

theorem addUserList_eq (d : Int) (a : Auth) (l : List (Key × Bool)) :
    addUserList d a l = replay Auth.addUser a (l.map (mkUser d)) := by
  fun_induction addUserList d a l <;> simp [replay, mkUser, *]

theorem addUserAdminList_eq (d : Int) (a : Auth) (l : List (Key × Bool)) :
    addUserAdminList d a l = replay Auth.addUserAdmin a (l.map (mkUser d)) := by
  fun_induction addUserAdminList d a l <;> simp [replay, mkUser, *]

theorem addRightList_eq (d : Int) (a : Auth) (l : List (Ent × Bool × Bool)) :
    addRightList d a l = replay Auth.addRight a (l.map (mkRight d)) := by
  fun_induction addRightList d a l <;> simp [replay, mkRight, *]

theorem addAdminList_ok {d : Int} {r r' : Room} {l : List (Key × Bool)} (h : addAdminList d r l = .ok r') :
    r' = { r with admins := r.admins ++ l.map (mkUser d) } ∧ (r.WF → r'.WF) :=
  replay_ok (ext := fun r l => { r with admins := r.admins ++ l }) (fun _ => by simp) (fun _ _ _ => by simp)
    (fun h1 => by
      obtain ⟨_, hl, rfl⟩ := Room.addAdmin_ok h1
      exact ⟨(addUserEntry_ok hl).1 ▸ rfl, (Room.addAdmin_wf · h1)⟩) (addAdminList_eq .. ▸ h)

theorem addUserList_ok {d : Int} {a a' : Auth} {l : List (Key × Bool)} (h : addUserList d a l = .ok a') :
    a' = { a with users := a.users ++ l.map (mkUser d) } ∧ (a.WF → a'.WF) :=
  replay_ok (ext := fun a l => { a with users := a.users ++ l }) (fun _ => by simp) (fun _ _ _ => by simp)
    (fun h1 => by
      obtain ⟨_, hl, rfl⟩ := Auth.addUser_ok h1
      exact ⟨(addUserEntry_ok hl).1 ▸ rfl, (Auth.addUser_wf · h1)⟩) (addUserList_eq .. ▸ h)

theorem addUserAdminList_ok {d : Int} {a a' : Auth} {l : List (Key × Bool)}
    (h : addUserAdminList d a l = .ok a') :
    a' = { a with userAdmins := a.userAdmins ++ l.map (mkUser d) } ∧ (a.WF → a'.WF) :=
  replay_ok (ext := fun a l => { a with userAdmins := a.userAdmins ++ l }) (fun _ => by simp) (fun _ _ _ => by simp)
    (fun h1 => by
      obtain ⟨_, hl, rfl⟩ := Auth.addUserAdmin_ok h1
      exact ⟨(addUserEntry_ok hl).1 ▸ rfl, (Auth.addUserAdmin_wf · h1)⟩) (addUserAdminList_eq .. ▸ h)

theorem addRightList_ok {d : Int} {a a' : Auth} {l : List (Ent × Bool × Bool)}
    (h : addRightList d a l = .ok a') :
    a' = { a with rights := a.rights ++ l.map (mkRight d) } ∧ (a.WF → a'.WF) :=
  replay_ok (ext := fun a l => { a with rights := a.rights ++ l }) (fun _ => by simp) (fun _ _ _ => by simp)
    (fun h1 => by
      obtain ⟨_, hl, rfl⟩ := Auth.addRight_ok h1
      exact ⟨(addRightEntry_ok hl).1 ▸ rfl, (Auth.addRight_wf · h1)⟩) (addRightList_eq .. ▸ h)

theorem liftErr_ok {α : Type} {x : Except Err α} {a : α} (h : liftErr x = .ok a) : x = .ok a := by
  cases x with
  | ok b => simp only [liftErr] at h; cases h; rfl
  | error e => cases e <;> simp [liftErr] at h

/-- `a` after the three loops of `validateGroup` over the entries of `g` -/
def extGroup (d : Int) (a : Auth) (g : GroupSpec) : Auth :=
  { a with rights := a.rights ++ g.rights.map (mkRight d), users := a.users ++ g.users.map (mkUser d),
           userAdmins := a.userAdmins ++ g.userAdmins.map (mkUser d) }

/-- the group `validateGroup` appends when the mutation creates it -/
def emptyAuth (gid : Id) (d : Int) : Auth := { id := gid, mdate := d, users := [], rights := [], userAdmins := [] }

section
variable {df : Defects} {caller : Key} {d : Int} {room room' : Room} {need need' : Bool} {g : GroupSpec}
  {gs : List GroupSpec}

/-- what an accepted group of a mutation went through: the group is found (`base = room`) or, when the mutation
    creates it, appended empty (`base`); it is extended by the entries of `g` and put back. `need` is
    `need_room_admin` as the code computes it. -/
theorem validateGroup_ok (h : validateGroup df caller d room g = .ok (room', need)) :
    ∃ a0 base,
      ((room.getAuth g.gid = some a0 ∧ base = room) ∨
       (room.getAuth g.gid = none ∧ g.isNew = true ∧ a0 = emptyAuth g.gid d ∧ room.addAuth a0 = .ok base)) ∧
      (a0.WF → (extGroup d a0 g).WF) ∧ room' = base.setAuth (extGroup d a0 g) ∧
      need = (((!g.rights.isEmpty || !g.userAdmins.isEmpty) ||
          (!g.users.isEmpty && !(extGroup d a0 g).canAdminUsers caller d)) ||
        (!df.groupCreationUnchecked && (room.getAuth g.gid).isNone)) := by
  unfold validateGroup at h
  simp only at h
  split at h
  · cases h
  · rename_i base a0 hstart
    split at h
    · cases h
    · rename_i a1 e1
      split at h
      · cases h
      · rename_i a2 e2
        split at h
        · cases h
        · rename_i a3 e3
          simp only [Except.ok.injEq, Prod.mk.injEq] at h
          obtain ⟨rfl, hneed⟩ := h
          obtain ⟨rfl, w1⟩ := addRightList_ok (liftErr_ok e1)
          obtain ⟨rfl, w2⟩ := addUserList_ok (liftErr_ok e2)
          obtain ⟨rfl, w3⟩ := addUserAdminList_ok (liftErr_ok e3)
          refine ⟨a0, base, ?_, fun w => w3 (w2 (w1 w)), rfl, hneed.symm⟩
          split at hstart
          · rename_i a hg
            cases hstart
            exact Or.inl ⟨hg, rfl⟩
          · rename_i hg
            by_cases hnew : g.isNew = true
            · rw [if_pos hnew] at hstart
              split at hstart
              · rename_i r1 hadd
                cases hstart
                exact Or.inr ⟨hg, hnew, rfl, hadd⟩
              · rename_i e hadd
                cases e <;> simp [liftErr] at hstart
            · rw [if_neg hnew] at hstart; cases hstart

theorem setAuth_append_new {l : List Auth} {a0 a' : Auth} (hid : a'.id = a0.id)
    (hn : ∀ y ∈ l, y.id ≠ a0.id) :
    ((l ++ [a0]).map fun x => if x.id = a'.id then a' else x) = l ++ [a'] := by
  rw [List.map_append, hid, map_replace_of_ne Auth.id a' hn]
  simp

/-- whatever ids the new rows get (`n₁`, `n₂`, `n₃`: where their numbering starts) -/
theorem GroupAgrees.ext {a : Auth} {x : GroupRow} (h : GroupAgrees a x) (author : Key) (d : Int) (n₁ n₂ n₃ : Nat)
    (g : GroupSpec) :
    GroupAgrees (extGroup d a g)
      { x with mdate := d, author, rights := x.rights ++ mkRightRows author d n₁ g.rights,
               users := x.users ++ mkUserRows author d n₂ g.users,
               userAdmins := x.userAdmins ++ mkUserRows author d n₃ g.userAdmins } :=
  ⟨h.id, by
    show (a.users ++ _).Perm ((x.users ++ _).map UserRow.toUser)
    rw [List.map_append, mkUserRows_toUser]; exact h.users.append_right _,
   by
    show (a.userAdmins ++ _).Perm ((x.userAdmins ++ _).map UserRow.toUser)
    rw [List.map_append, mkUserRows_toUser]; exact h.userAdmins.append_right _,
   by
    show (a.rights ++ _).Perm ((x.rights ++ _).map (RightRow.toRight false))
    rw [List.map_append, mkRightRows_toRight]; exact h.rights.append_right _⟩

theorem validateGroup_agrees {author : Key} {n : Nat} {groups : List GroupRow}
    (hf : Forall2 GroupAgrees room.auths groups) (hw : room.WF)
    (h : validateGroup df caller d room g = .ok (room', need)) :
    Forall2 GroupAgrees room'.auths (storeGroup author d n groups g) ∧ room'.WF := by
  obtain ⟨a0, base, hcase, hwa, rfl, _⟩ := validateGroup_ok h
  have hany := forall2_any_gid hf g.gid
  rcases hcase with ⟨hg, rfl⟩ | ⟨hg, _, ha0, hadd⟩
  · obtain ⟨hm, hgid⟩ := getAuth_some hg
    refine ⟨?_, Room.setAuth_wf hw (hwa (hw.auths a0 hm))⟩
    simp only [storeGroup, hany, Room.setAuth]
    rw [if_pos (List.any_eq_true.mpr ⟨a0, hm, decide_eq_true hgid⟩)]
    apply hf.map
    intro y hy x hx hyx
    have hyid : y.id = x.gid := hyx.id
    show GroupAgrees (if y.id = a0.id then _ else y) _
    rw [hyid, hgid]
    by_cases hc : x.gid = g.gid
    · rw [if_pos hc, if_pos hc]
      have hya : y = a0 := by
        have h1 := getAuth_of_mem hw.ids hy
        rw [hyid, hc, hg] at h1
        exact (Option.some.inj h1).symm
      exact hya ▸ hyx.ext ..
    · rw [if_neg hc, if_neg hc]; exact hyx
  · have hwa0 : a0.WF := ha0 ▸ Auth.wf_empty _ _
    have hwb := Room.addAuth_wf hw hwa0 hadd
    have hid0 : a0.id = g.gid := ha0 ▸ rfl
    obtain ⟨hno, rfl⟩ := Room.addAuth_ok hadd
    have hauths : (Room.setAuth { room with auths := room.auths ++ [a0] } (extGroup d a0 g)).auths
        = room.auths ++ [extGroup d a0 g] :=
      setAuth_append_new rfl (by intro y hy; rw [hid0]; exact getAuth_none hg y hy)
    refine ⟨?_, Room.setAuth_wf hwb (hwa hwa0)⟩
    rw [hauths]
    simp only [storeGroup, hany]
    rw [if_neg (by rw [← hid0, hno]; exact Bool.false_ne_true)]
    refine hf.append (Forall2.cons ?_ Forall2.nil)
    rw [ha0]
    exact GroupAgrees.ext (a := emptyAuth g.gid d) (x := ⟨g.gid, n, d, author, [], [], []⟩)
      ⟨rfl, .refl _, .refl _, .refl _⟩ ..

theorem validateGroup_frame (h : validateGroup df caller d room g = .ok (room', need)) :
    room'.admins = room.admins ∧ room'.id = room.id := by
  obtain ⟨a0, base, hcase, _, rfl, _⟩ := validateGroup_ok h
  rcases hcase with ⟨_, rfl⟩ | ⟨_, _, _, hadd⟩
  · exact ⟨rfl, rfl⟩
  · obtain ⟨_, rfl⟩ := Room.addAuth_ok hadd; exact ⟨rfl, rfl⟩

theorem validateGroup_getAuth_ne (h : validateGroup df caller d room g = .ok (room', need)) {gid : Id}
    (hne : gid ≠ g.gid) :
    room'.getAuth gid = room.getAuth gid := by
  obtain ⟨a0, base, hcase, _, rfl, _⟩ := validateGroup_ok h
  have hid : a0.id = g.gid := by
    rcases hcase with ⟨hg, _⟩ | ⟨_, _, rfl, _⟩
    · exact (getAuth_some hg).2
    · rfl
  have hb : base.getAuth gid = room.getAuth gid := by
    rcases hcase with ⟨_, rfl⟩ | ⟨_, _, _, hadd⟩
    · rfl
    · obtain ⟨_, rfl⟩ := Room.addAuth_ok hadd
      rw [Room.getAuth, List.find?_append, List.find?_cons_of_neg (by simpa [hid] using Ne.symm hne)]
      exact Option.or_none
  rw [getAuth_setAuth, hb]
  cases hx : room.getAuth gid with
  | none => rfl
  | some x =>
    have hxid : x.id ≠ (extGroup d a0 g).id := fun e => hne ((getAuth_some hx).2.symm.trans (e.trans hid))
    exact congrArg some (if_neg hxid)

theorem validateGroup_need_of_entries (h : validateGroup df caller d room g = .ok (room', need))
    (hg : g.rights ≠ [] ∨ g.userAdmins ≠ []) : need = true := by
  obtain ⟨_, _, _, _, _, rfl⟩ := validateGroup_ok h
  rcases hg with hg | hg
  · cases hr : g.rights with
    | nil => exact absurd hr hg
    | cons _ _ => rfl
  · cases hr : g.userAdmins with
    | nil => exact absurd hr hg
    | cons _ _ => simp

theorem validateGroup_need_of_created (hdf : df.groupCreationUnchecked = false)
    (h : validateGroup df caller d room g = .ok (room', need)) (hg : room.getAuth g.gid = none) :
    need = true := by
  obtain ⟨_, _, _, _, _, rfl⟩ := validateGroup_ok h
  simp [hdf, hg]

theorem validateGroups_cons {t : List GroupSpec}
    (h : validateGroups df caller d room need (g :: t) = .ok (room', need')) :
    ∃ r1 n1, validateGroup df caller d room g = .ok (r1, n1) ∧
      validateGroups df caller d r1 (need || n1) t = .ok (room', need') := by
  simp only [validateGroups] at h
  split at h
  · cases h
  · rename_i r1 n1 h1; exact ⟨r1, n1, h1, h⟩

theorem validateGroups_need_true
    (h : validateGroups df caller d room true gs = .ok (room', need)) : need = true := by
  induction gs generalizing room with
  | nil => cases h; rfl
  | cons g t ih =>
    obtain ⟨r1, n1, _, h⟩ := validateGroups_cons h
    exact ih h

theorem validateGroups_frame
    (h : validateGroups df caller d room need gs = .ok (room', need')) :
    room'.admins = room.admins ∧ room'.id = room.id := by
  induction gs generalizing room need with
  | nil => cases h; exact ⟨rfl, rfl⟩
  | cons g t ih =>
    obtain ⟨r1, n1, h1, h⟩ := validateGroups_cons h
    exact ⟨(ih h).1.trans (validateGroup_frame h1).1, (ih h).2.trans (validateGroup_frame h1).2⟩

theorem validateGroups_agrees {author : Key} {n : Nat} {groups : List GroupRow}
    (hf : Forall2 GroupAgrees room.auths groups) (hw : room.WF)
    (h : validateGroups df caller d room need gs = .ok (room', need')) :
    Forall2 GroupAgrees room'.auths (storeGroups author d n groups gs) ∧ room'.WF := by
  induction gs generalizing room need n groups with
  | nil => cases h; exact ⟨hf, hw⟩
  | cons g t ih =>
    obtain ⟨r1, n1, h1, h⟩ := validateGroups_cons h
    obtain ⟨f1, w1⟩ := validateGroup_agrees (author := author) (n := n) hf hw h1
    exact ih f1 w1 h

end

theorem validate_ok {df : Defects} {mem : Option Room} {caller : Key} {m : MutSpec} {room' : Room}
    (h : validate df mem caller m = .ok room') :
    ∃ room room1 need,
      ((m.isNew = true ∧ room = Room.empty m.rid 0) ∨
       (m.isNew = false ∧ mem = some room ∧ room.isAdmin caller m.date = true)) ∧
      addAdminList m.date room m.admins = .ok room1 ∧
      validateGroups df caller m.date room1 (!m.admins.isEmpty) m.groups = .ok (room', need) ∧
      (need = true → room'.isAdmin caller m.date = true) := by
  unfold validate at h
  simp only at h
  split at h
  · cases h
  · rename_i room hstart
    split at h
    · cases h
    · rename_i room1 hadm
      split at h
      · cases h
      · rename_i room2 need hgs
        obtain ⟨hc, h⟩ := of_ite_ne h nofun
        cases h
        refine ⟨room, room1, need, ?_, liftErr_ok hadm, hgs, fun hn => by simpa [hn] using hc⟩
        by_cases hnew : m.isNew = true
        · rw [if_pos hnew] at hstart; cases hstart; exact Or.inl ⟨hnew, rfl⟩
        · rw [if_neg hnew] at hstart
          split at hstart
          · cases hstart
          · rename_i r0
            by_cases hadmin : r0.isAdmin caller m.date = true
            · rw [if_pos hadmin] at hstart; cases hstart
              exact Or.inr ⟨Bool.eq_false_iff.mpr hnew, rfl, hadmin⟩
            · rw [if_neg hadmin] at hstart; cases hstart

theorem validate_agrees {df : Defects} {caller : Key} {n : Nat} {m : MutSpec} {mem : Option Room} {old : Option RoomRow}
    {room' : Room}
    (hinv : if m.isNew then old = none else ∃ r rr, mem = some r ∧ old = some rr ∧ AgreesOrd r rr ∧ r.WF ∧ r.id = rr.rid)
    (h : validate df mem caller m = .ok room') :
    AgreesOrd room' (storeMutation caller n old m) ∧ room'.WF ∧ room'.id = (storeMutation caller n old m).rid := by
  obtain ⟨room, room1, need, hstart, hadm, hgs, _⟩ := validate_ok h
  obtain ⟨rfl, wadm⟩ := addAdminList_ok hadm
  -- the stored room the mutation is applied to
  have hbase : ∃ base : RoomRow, (storeMutation caller n old m).admins =
        base.admins ++ mkUserRows caller m.date n m.admins ∧
      (storeMutation caller n old m).groups =
        storeGroups caller m.date (n + m.admins.length) base.groups m.groups ∧
      (storeMutation caller n old m).rid = base.rid ∧
      AgreesOrd room base ∧ room.WF ∧ room.id = base.rid := by
    rcases hstart with ⟨hnew, rfl⟩ | ⟨hnew, rfl, _⟩
    · rw [hnew, if_pos rfl] at hinv
      subst hinv
      exact ⟨_, rfl, rfl, rfl, ⟨.refl _, .nil⟩, Room.wf_empty _ _, rfl⟩
    · simp only [hnew, Bool.false_eq_true, if_false] at hinv
      obtain ⟨r, rr, hr, rfl, ha, hw, hid⟩ := hinv
      cases hr
      exact ⟨rr, rfl, rfl, rfl, ha, hw, hid⟩
  obtain ⟨base, e1, e2, e3, ha, hw, hid⟩ := hbase
  obtain ⟨f, w⟩ := validateGroups_agrees (author := caller) (n := n + m.admins.length)
    (room := { room with admins := room.admins ++ m.admins.map (mkUser m.date) }) ha.groups (wadm hw) hgs
  obtain ⟨ea, ei⟩ := validateGroups_frame hgs
  refine ⟨⟨?_, e2 ▸ f⟩, w, by rw [ei, e3]; exact hid⟩
  rw [ea, e1]
  simpa [mkUserRows_toUser] using ha.admins.append_right _

end Discret.RoomBuild
