import DiscretModel.Lemmas.SyncOrder
/-
Convergence of any number of replicas under any sequence of pairwise pulls, when a pull is the join.
-/
namespace Discret.SyncOrder

def joinAll : List ARep → ARep
  | [] => ARep.empty
  | a :: t => join a (joinAll t)

theorem joinAll_wf (l : List ARep) : (joinAll l).WF := by
  cases l with
  | nil => exact empty_wf
  | cons a t => exact join_wf _ _

theorem le_joinAll {l : List ARep} (hw : ∀ x ∈ l, x.WF) {x : ARep} (hx : x ∈ l) : le x (joinAll l) := by
  induction l with
  | nil => cases hx
  | cons a t ih =>
    rcases List.mem_cons.mp hx with e | e
    · subst e; exact le_join_left (hw x List.mem_cons_self) _
    · exact le_trans (ih (fun y hy => hw y (List.mem_cons_of_mem _ hy)) e) (le_join_right (joinAll_wf t) a)

theorem joinAll_le {l : List ARep} {c : ARep} (hc : c.WF) (h : ∀ x ∈ l, le x c) : le (joinAll l) c := by
  induction l with
  | nil => exact join_empty_left hc
  | cons a t ih =>
    exact join_le (h a List.mem_cons_self) (ih (fun y hy => h y (List.mem_cons_of_mem _ hy)))

theorem joinAll_perm {l1 l2 : List ARep} (h : l1.Perm l2) : joinAll l1 = joinAll l2 := by
  induction h with
  | nil => rfl
  | cons a _ ih => simp only [joinAll, ih]
  | swap a b l => simp only [joinAll]; rw [← join_assoc, ← join_assoc, join_comm b a]
  | trans _ _ ih1 ih2 => exact ih1.trans ih2

abbrev Net := List ARep

def Net.at (s : Net) (i : Nat) : ARep := s.getD i ARep.empty

def Net.pull (s : Net) (dst src : Nat) : Net := s.set dst (join (s.at dst) (s.at src))

def Net.run (s : Net) : List (Nat × Nat) → Net
  | [] => s
  | (d, r) :: t => Net.run (s.pull d r) t

/-- a full round of all ordered pairs changes nothing -/
def Net.Quiet (s : Net) : Prop := ∀ i j, i < s.length → j < s.length → join (s.at i) (s.at j) = s.at i

theorem Net.at_eq_getElem {s : Net} {i : Nat} (hi : i < s.length) : s.at i = s[i] := by
  unfold Net.at
  rw [List.getD_eq_getElem?_getD, List.getElem?_eq_getElem hi]; rfl

theorem Net.at_of_le {s : Net} {i : Nat} (hi : s.length ≤ i) : s.at i = ARep.empty := by
  unfold Net.at
  rw [List.getD_eq_getElem?_getD, List.getElem?_eq_none hi]; rfl

theorem Net.at_mem {s : Net} {i : Nat} (hi : i < s.length) : s.at i ∈ s :=
  Net.at_eq_getElem hi ▸ List.getElem_mem hi

theorem Net.pull_length (s : Net) (d r : Nat) : (s.pull d r).length = s.length :=
  List.length_set

theorem Net.run_length (s : Net) (sched : List (Nat × Nat)) : (s.run sched).length = s.length := by
  induction sched generalizing s with
  | nil => rfl
  | cons x t ih => exact (ih _).trans (Net.pull_length s x.1 x.2)

theorem Net.at_pull (s : Net) (d r i : Nat) :
    (s.pull d r).at i = if i = d ∧ d < s.length then join (s.at d) (s.at r) else s.at i := by
  unfold Net.pull Net.at
  simp only [List.getD_eq_getElem?_getD, List.getElem?_set]
  by_cases h : d = i
  · subst h
    by_cases hl : d < s.length
    · rw [if_pos rfl, if_pos hl, if_pos ⟨rfl, hl⟩]; rfl
    · rw [if_pos rfl, if_neg hl, if_neg (fun h => hl h.2), List.getElem?_eq_none (Nat.le_of_not_lt hl)]
  · rw [if_neg h, if_neg (fun h' => h h'.1.symm)]

theorem Net.quiet_all_equal {s : Net} (h : s.Quiet) {i j : Nat} (hi : i < s.length) (hj : j < s.length) :
    s.at i = s.at j := by
  rw [← h i j hi hj, join_comm, h j i hj hi]

theorem Net.quiet_pull_noop {s : Net} (h : s.Quiet) {i j : Nat} (hi : i < s.length) (hj : j < s.length) :
    s.pull i j = s := by
  unfold Net.pull
  rw [h i j hi hj, Net.at_eq_getElem hi, List.set_getElem_self]

/-- `i` is unbounded: a replica that is absent counts as empty (`Net.at`) -/
def Net.Between (s0 s : Net) : Prop :=
  ∀ i, le (s0.at i) (s.at i) ∧ le (s.at i) (joinAll s0) ∧ (s.at i).WF

theorem Net.Between.pull {s0 s : Net} (h : Net.Between s0 s) (d r : Nat) : Net.Between s0 (s.pull d r) := by
  intro k
  rw [Net.at_pull]
  split
  · rename_i hc
    obtain ⟨rfl, _⟩ := hc
    obtain ⟨a1, a2, a3⟩ := h k
    exact ⟨le_trans a1 (le_join_left a3 _), join_le a2 (h r).2.1, join_wf _ _⟩
  · exact h k

theorem Net.Between.run {s0 : Net} (sched : List (Nat × Nat)) :
    ∀ {s : Net}, Net.Between s0 s → Net.Between s0 (s.run sched) := by
  induction sched with
  | nil => exact fun h => h
  | cons x t ih => exact fun h => ih (h.pull x.1 x.2)

theorem Net.Between.refl {s0 : Net} (hw : ∀ x ∈ s0, x.WF) : Net.Between s0 s0 := by
  intro k
  by_cases hk : k < s0.length
  · exact ⟨le_refl (hw _ (Net.at_mem hk)), le_joinAll hw (Net.at_mem hk), hw _ (Net.at_mem hk)⟩
  · rw [Net.at_of_le (Nat.le_of_not_lt hk)]
    exact ⟨join_empty_left empty_wf, join_empty_left (joinAll_wf s0), empty_wf⟩

/-- **convergence**: whatever the schedule, once a full round changes nothing every replica holds the join of
    all initial replicas — the same state for every order of the pulls -/
theorem Net.quiet_is_joinAll {s0 : Net} (hw : ∀ x ∈ s0, x.WF) (sched : List (Nat × Nat))
    (hq : (s0.run sched).Quiet) {i : Nat} (hi : i < s0.length) : (s0.run sched).at i = joinAll s0 := by
  have hb := Net.Between.run sched (Net.Between.refl hw)
  have hlen := Net.run_length s0 sched
  refine le_antisymm (hb i).2.1 (joinAll_le (hb i).2.2 fun x hx => ?_)
  -- every initial replica is below its own final state, which is the final state of `i`
  obtain ⟨k, hk, rfl⟩ := List.getElem_of_mem hx
  rw [← Net.at_eq_getElem hk, Net.quiet_all_equal hq (hlen ▸ hi) (hlen ▸ hk)]
  exact (hb k).1

theorem joinAll_dead (l : List ARep) (i : Nat) : (joinAll l).dead i = l.any (fun x => x.dead i) := by
  induction l with
  | nil => rfl
  | cons a t ih => simp [joinAll, join, ih]

theorem joinAll_recs (l : List ARep) (s : Nat) : (joinAll l).recs s = l.any (fun x => x.recs s) := by
  induction l with
  | nil => rfl
  | cons a t ih => simp [joinAll, join, ih]

theorem joinAll_ver (l : List ARep) (i : Nat) : (joinAll l).dead i = false →
    (∀ w, (joinAll l).ver i = some w → ∃ x ∈ l, x.ver i = some w) ∧
    (∀ x ∈ l, ∀ v, x.ver i = some v → ∃ w, (joinAll l).ver i = some w ∧ vle v w) := by
  induction l with
  | nil => exact fun _ => ⟨fun w h => (nomatch h), fun x hx => (nomatch hx)⟩
  | cons a t ih =>
    intro hd
    obtain ⟨i1, i2⟩ := ih (Bool.or_eq_false_iff.mp hd).2
    have hv : (joinAll (a :: t)).ver i = merge (a.ver i) ((joinAll t).ver i) := if_neg (ne_true_of_eq_false hd)
    rw [hv]
    refine ⟨fun w hw' => ?_, fun x hx v hxv => ?_⟩
    · rcases merge_eq_or (a.ver i) ((joinAll t).ver i) with e | e
      · exact ⟨a, List.mem_cons_self, e ▸ hw'⟩
      · obtain ⟨x, hx, e'⟩ := i1 w (e ▸ hw')
        exact ⟨x, List.mem_cons_of_mem _ hx, e'⟩
    · rcases List.mem_cons.mp hx with rfl | e
      · exact hxv ▸ le_merge_left v _
      · obtain ⟨w, e1, e2⟩ := i2 x e v hxv
        obtain ⟨w', e3, e4⟩ := le_merge_right (a.ver i) w
        exact ⟨w', e1 ▸ e3, vle_trans e2 e4⟩

theorem joinAll_ver_eq {l : List ARep} {i : Nat} {o : Option Ver}
    (hd : (joinAll l).dead i = false) (hsub : ∀ x ∈ l, ∀ w, x.ver i = some w → o = some w)
    (hex : ∀ w, o = some w → ∃ x ∈ l, x.ver i = some w) : (joinAll l).ver i = o := by
  obtain ⟨shown, above⟩ := joinAll_ver l i hd
  cases o with
  | none =>
    cases hJ : (joinAll l).ver i with
    | none => rfl
    | some w => obtain ⟨x, hx, e⟩ := shown w hJ; exact (hsub x hx w e).symm
  | some v =>
    obtain ⟨x, hx, e⟩ := hex v rfl
    obtain ⟨w, hJ, _⟩ := above x hx v e
    obtain ⟨y, hy, e'⟩ := shown w hJ
    rw [hJ, hsub y hy w e']

theorem foldl_join {α : Type} (g : α → ARep) (l : List α) :
    ∀ {a : ARep}, a.WF → l.foldl (fun a x => join a (g x)) a = join a (joinAll (l.map g)) := by
  induction l with
  | nil => exact fun ha => (join_empty_right ha).symm
  | cons x t ih => exact fun _ => (ih (join_wf _ _)).trans (join_assoc _ _ _)

theorem join_joinAll_filter {α : Type} (g : α → ARep) (p : α → Bool) {a : ARep} (l : List α)
    (hskip : ∀ x ∈ l, p x = false → le (g x) a) :
    join a (joinAll ((l.filter p).map g)) = join a (joinAll (l.map g)) := by
  induction l with
  | nil => rfl
  | cons x t ih =>
    have iht := ih fun y hy => hskip y (List.mem_cons_of_mem _ hy)
    cases hp : p x with
    | true =>
      rw [List.filter_cons_of_pos hp]
      simp only [List.map_cons, joinAll]
      rw [join_left_comm, iht, join_left_comm]
    | false =>
      have hle : join (g x) a = a := hskip x List.mem_cons_self hp
      rw [List.filter_cons_of_neg (by simp [hp]), iht]
      simp only [List.map_cons, joinAll]
      rw [join_left_comm, ← join_assoc, hle]

end Discret.SyncOrder
