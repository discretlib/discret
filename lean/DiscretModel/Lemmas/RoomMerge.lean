import DiscretModel.Lemmas.RoomSite
/-
Import on top of an earlier version (`prepare_room_with_history`): when everything the importer stores for the
room is contained in the candidate (`Covers`), the merged definition holds the candidate's rows, list by list.
-/
namespace Discret.RoomBuild
open Discret.Room

def CoversU (cand old : List UserRow) : Prop := ∀ o ∈ old, cand.any (fun c => c.id = o.id) = true
def CoversR (cand old : List RightRow) : Prop := ∀ o ∈ old, cand.any (fun c => c.id = o.id) = true

structure CoversG (c o : GroupRow) : Prop where
  users : CoversU c.users o.users
  userAdmins : CoversU c.userAdmins o.userAdmins
  rights : CoversR c.rights o.rights

structure Covers (cand old : RoomRow) : Prop where
  admins : CoversU cand.admins old.admins
  groups : ∀ o ∈ old.groups, ∃ c ∈ cand.groups, c.gid = o.gid ∧ CoversG c o

def coversB (cand old : RoomRow) : Bool :=
  old.admins.all (fun o => cand.admins.any fun c => c.id = o.id) &&
  old.groups.all fun o => cand.groups.any fun c =>
    c.gid = o.gid &&
    o.users.all (fun x => c.users.any fun y => y.id = x.id) &&
    o.userAdmins.all (fun x => c.userAdmins.any fun y => y.id = x.id) &&
    o.rights.all (fun x => c.rights.any fun y => y.id = x.id)

theorem covers_of_bool {cand old : RoomRow} (h : coversB cand old = true) : Covers cand old := by
  simp only [coversB, Bool.and_eq_true, List.all_eq_true] at h
  refine ⟨h.1, fun o ho => ?_⟩
  obtain ⟨c, hc, hcond⟩ := List.any_eq_true.mp (h.2 o ho)
  simp only [Bool.and_eq_true, List.all_eq_true, decide_eq_true_eq] at hcond
  exact ⟨c, hc, hcond.1.1.1, hcond.1.1.2, hcond.1.2, hcond.2⟩

/-- `mergeUsers` and `mergeRights`: when every stored row is in the candidate, nothing is added back -/
theorem merge_covered {α : Type} [DecidableEq α] (id : α → Nat) {old cand l : List α}
    (hc : ∀ o ∈ old, cand.any (fun c => id c = id o) = true)
    (h : (if old.any (fun o => cand.any fun c => id c = id o && c != o) then Except.error MErr.invalidNode
      else .ok (cand ++ old.filter fun o => !cand.any fun c => id c = id o)) = .ok l) : l = cand := by
  obtain ⟨_, h⟩ := of_ite_ne h nofun
  cases h
  rw [List.filter_eq_nil_iff.mpr fun o ho => by simp [hc o ho], List.append_nil]

theorem prepareAuthWithHistory_ok {room : Room} {o c g : GroupRow} {n : Bool}
    (h : prepareAuthWithHistory room o c = .ok (g, n)) :
    ∃ uas users rights, mergeUsers o.userAdmins c.userAdmins = .ok uas ∧ mergeUsers o.users c.users = .ok users ∧
      mergeRights o.rights c.rights = .ok rights ∧
      g = { c with rights := sortRights false rights, users := sortUsers false users,
                   userAdmins := sortUsers false uas } := by
  unfold prepareAuthWithHistory at h
  split at h
  · cases h
  · split at h
    · cases h
    · rename_i uas huas
      simp only at h
      split at h
      · cases h
      · split at h
        · cases h
        · rename_i users husers
          obtain ⟨_, h⟩ := of_ite_ne h nofun
          split at h
          · cases h
          · rename_i rights hrights
            obtain ⟨_, h⟩ := of_ite_ne h nofun
            cases h
            exact ⟨uas, users, rights, huas, husers, hrights, rfl⟩

theorem prepareAuthWithHistory_same {room : Room} {o c g : GroupRow} {n : Bool} (hc : CoversG c o)
    (h : prepareAuthWithHistory room o c = .ok (g, n)) : GroupSame g c := by
  obtain ⟨uas, users, rights, huas, husers, hrights, rfl⟩ := prepareAuthWithHistory_ok h
  cases merge_covered UserRow.id hc.userAdmins huas
  cases merge_covered UserRow.id hc.users husers
  cases merge_covered RightRow.id hc.rights hrights
  exact ⟨rfl, sortUsers_perm false c.users, sortUsers_perm false c.userAdmins, sortRights_perm false c.rights⟩

abbrev GroupsSame (l₁ l₂ : List GroupRow) : Prop := Forall2 GroupSame l₁ l₂

theorem groupsSame_gids {l₁ l₂ : List GroupRow} (h : GroupsSame l₁ l₂) : l₁.map (·.gid) = l₂.map (·.gid) :=
  h.map_eq fun _ _ hab => hab.1.symm

theorem groupsSame_replace {acc cand : List GroupRow} (hs : GroupsSame acc cand)
    (hn : (cand.map (·.gid)).Nodup) {gid : Id} {c g : GroupRow} (hf : acc.find? (·.gid = gid) = some c)
    (hg : GroupSame g c) : GroupsSame (acc.map fun x => if x.gid = gid then g else x) cand := by
  rw [← List.map_id cand]
  refine hs.map _ id fun a ha b _ hab => ?_
  by_cases e : a.gid = gid
  · have hfa := find_of_mem_nodup GroupRow.gid (groupsSame_gids hs ▸ hn) ha
    rw [e, hf] at hfa
    cases hfa
    rw [if_pos e]; exact hg.trans hab
  · rw [if_neg e]; exact hab

theorem find_of_groupsSame {acc cand : List GroupRow} (hs : GroupsSame acc cand) {gid : Id} {c0 : GroupRow}
    (hc0 : c0 ∈ cand) (hg : c0.gid = gid) (hn : (cand.map (·.gid)).Nodup) :
    ∃ c, acc.find? (·.gid = gid) = some c ∧ GroupSame c c0 := by
  obtain ⟨c, hc, hsame⟩ := hs.matched.2 c0 hc0
  exact ⟨c, hg ▸ hsame.1 ▸ find_of_mem_nodup GroupRow.gid (groupsSame_gids hs ▸ hn) hc, hsame⟩

theorem coversG_of_same {c c0 o : GroupRow} (hs : GroupSame c c0) (hc : CoversG c0 o) : CoversG c o :=
  ⟨fun x hx => hs.2.1.any_eq ▸ hc.users x hx, fun x hx => hs.2.2.1.any_eq ▸ hc.userAdmins x hx,
   fun x hx => hs.2.2.2.any_eq ▸ hc.rights x hx⟩

/-- the loop over the importer's groups: under coverage every group is found in the candidate and replaced by
    a group with the candidate's rows. (`x`: an argument the loop carries along and never reads.) -/
theorem mergeOldGroups_same {room : Room} {cand olds acc res : List GroupRow} {need need' : Bool}
    (hs : GroupsSame acc cand) (hn : (cand.map (·.gid)).Nodup)
    (hcov : ∀ o ∈ olds, ∃ c ∈ cand, c.gid = o.gid ∧ CoversG c o) {x : List GroupRow}
    (h : mergeOldGroups room x olds acc need = .ok (res, need')) : GroupsSame res cand := by
  induction olds generalizing acc need with
  | nil => simp only [mergeOldGroups, Except.ok.injEq, Prod.mk.injEq] at h; rw [← h.1]; exact hs
  | cons o t ih =>
    obtain ⟨c0, hc0, hgid, hcg⟩ := hcov o (List.mem_cons_self ..)
    obtain ⟨c, hfind, hsame⟩ := find_of_groupsSame hs hc0 hgid hn
    have hcov' : ∀ o ∈ t, ∃ c ∈ cand, c.gid = o.gid ∧ CoversG c o :=
      fun x hx => hcov x (List.mem_cons_of_mem _ hx)
    have hc := coversG_of_same hsame hcg
    simp only [mergeOldGroups, hfind] at h
    by_cases hlt : o.mdate < c.mdate
    · -- the candidate's group row is newer: it is taken, when its author is admin
      rw [if_pos hlt] at h
      obtain ⟨_, h⟩ := of_ite_ne h nofun
      split at h
      · cases h
      · rename_i g n1 hp
        exact ih (groupsSame_replace hs hn hfind (prepareAuthWithHistory_same hc hp)) hcov' h
    · -- otherwise the stored group row is kept; the lists are merged all the same
      rw [if_neg hlt] at h
      split at h
      · cases h
      · rename_i g n1 hp
        exact ih (groupsSame_replace hs hn hfind
          (prepareAuthWithHistory_same (c := { c with mdate := o.mdate, author := o.author }) ⟨hc.1, hc.2, hc.3⟩ hp))
          hcov' h

theorem roomRowCheck_ok {room : Room} {old cand c' : RoomRow} (h : roomRowCheck room old cand = .ok c') :
    c'.rid = cand.rid ∧ c'.admins = cand.admins ∧ c'.groups = cand.groups := by
  rw [roomRowCheck] at h
  by_cases h1 : cand.mdate = old.mdate ∧ cand.author = old.author
  · rw [if_pos h1] at h; cases h; exact ⟨rfl, rfl, rfl⟩
  · rw [if_neg h1] at h
    by_cases h2 : old.mdate < cand.mdate
    · rw [if_pos h2] at h
      by_cases h3 : room.isAdmin cand.author cand.mdate = true
      · rw [if_pos h3] at h; cases h; exact ⟨rfl, rfl, rfl⟩
      · rw [if_neg h3] at h; cases h
    · rw [if_neg h2] at h; cases h; exact ⟨rfl, rfl, rfl⟩

theorem prepareLists_ok {df : Defects} {room : Room} {old cand merged : RoomRow} {need : Bool}
    (h : prepareLists df room old cand = .ok (need, merged)) :
    ∃ admins room' need0 groups need1, mergeUsers old.admins cand.admins = .ok admins ∧
      mergeOldGroups room' cand.groups old.groups cand.groups need0 = .ok (groups, need1) ∧
      merged = { cand with admins := sortUsers false admins, groups } := by
  unfold prepareLists at h
  split at h
  · cases h
  · rename_i admins hadm
    simp only at h
    split at h
    · cases h
    · rename_i room' need0 _
      split at h
      · cases h
      · rename_i groups need1 hmg
        split at h
        · cases h
        · split at h
          · cases h
          · cases h
            exact ⟨admins, room', need0, groups, need1, hadm, hmg, rfl⟩

theorem prepareLists_sameRows {df : Defects} {room : Room} {old cand merged : RoomRow} {need : Bool}
    (hcov : Covers cand old) (hn : (cand.groups.map (·.gid)).Nodup)
    (h : prepareLists df room old cand = .ok (need, merged)) : SameRows merged cand ∧ merged.rid = cand.rid := by
  obtain ⟨admins, _, _, groups, _, hadm, hmg, rfl⟩ := prepareLists_ok h
  cases merge_covered UserRow.id hcov.admins hadm
  exact ⟨.of_matched (x := { cand with admins := sortUsers false cand.admins, groups })
    (sortUsers_perm false cand.admins) (mergeOldGroups_same (.refl GroupSame.refl _) hn hcov.groups hmg).matched, rfl⟩

theorem prepareWithHistory_sameRows {df : Defects} {room : Room} {old cand merged : RoomRow} {need : Bool}
    (hcov : Covers cand old) (hn : (cand.groups.map (·.gid)).Nodup)
    (h : prepareWithHistory df room old cand = .ok (need, merged)) :
    SameRows merged cand ∧ merged.rid = cand.rid := by
  unfold prepareWithHistory at h
  split at h
  · cases h
  · rename_i c' hc
    -- `c'` is `cand` with, possibly, the date and author of the stored room row
    obtain ⟨e1, e2, e3⟩ := roomRowCheck_ok hc
    obtain ⟨hs, hrid⟩ := prepareLists_sameRows (cand := c') ⟨e2 ▸ hcov.admins, e3 ▸ hcov.groups⟩ (e3 ▸ hn) h
    exact ⟨hs.trans (.of_matched (e2 ▸ .refl _) (e3 ▸ .of_perm GroupSame.refl (.refl _))), hrid.trans e1⟩

end Discret.RoomBuild
