import DiscretModel.Gen.ConnClose
/-!
Obligation of translator T10 (C20, connection side). Decided here, on the facts regenerated from the end of
`LocalPeerService::start`: the grant inbox is closed BEFORE it is drained (so that a grant sent afterwards fails at the
lock service and is not locked), everything drained is handed to `cleanup`, and `cleanup` sends one unlock per room.
That is the order in which the `close` step of `Model/LockConn.lean` (switches off) drops the receiver and then releases
the inbox room by room; the model does not read `Gen/ConnClose.lean`, so that the two agree is seen by reading them side
by side, not stated by this theorem. Removing `lock_receiver.close()` or moving it after the drain turns this `decide`
false.
-/
namespace Discret.Gen.ConnClose

theorem close_step_shape :
    order = ["loop", "close", "drain", "cleanup"] ∧ drainFeedsCleanup = true ∧ cleanupUnlocksEach = true := by decide

end Discret.Gen.ConnClose
