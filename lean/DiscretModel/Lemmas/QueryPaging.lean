/-
Paging through a strictly ordered list with `first n, after(last)`: every element exactly once, in order.
Generic in the element and key types; `Lemmas/Query.lean` instantiates it with the rows selected by a query and their
order-key tuples (`queryPages_eq_pages`), `Props/C05.lean` concludes.
-/
namespace Discret.Query.Paging

variable {α κ : Type}

def beyond (key : α → κ) (lt : κ → κ → Bool) (l : List α) : Option κ → List α
  | none => l
  | some k => l.filter fun r => lt k (key r)

def page (key : α → κ) (lt : κ → κ → Bool) (n : Nat) (l : List α) (c : Option κ) : List α :=
  (beyond key lt l c).take n

def pages (key : α → κ) (lt : κ → κ → Bool) (n : Nat) (l : List α) : Nat → Option κ → List (List α)
  | 0, _ => []
  | fuel + 1, c =>
    let p := page key lt n l c
    match p.getLast? with
    | none => []
    | some x => p :: pages key lt n l fuel (some (key x))

theorem mem_of_mem_page {key : α → κ} {lt : κ → κ → Bool} {n : Nat} {l : List α} {c : Option κ} {x : α}
    (h : x ∈ page key lt n l c) : x ∈ l := by
  have h2 := List.mem_of_mem_take h
  cases c with
  | none => exact h2
  | some k => exact (List.mem_filter.mp h2).1

theorem filter_after_last (key : α → κ) (lt : κ → κ → Bool)
    (hasym : ∀ a b, lt a b = true → lt b a = false)
    (pre post : List α) (x : α)
    (hs : (pre ++ x :: post).Pairwise fun a b => lt (key a) (key b) = true) :
    (pre ++ x :: post).filter (fun r => lt (key x) (key r)) = post := by
  rw [List.pairwise_append] at hs
  obtain ⟨_, hxp, hcross⟩ := hs
  rw [List.pairwise_cons] at hxp
  obtain ⟨hx, _⟩ := hxp
  rw [List.filter_append]
  have h1 : pre.filter (fun r => lt (key x) (key r)) = [] := by
    apply List.filter_eq_nil_iff.mpr
    intro a ha
    have := hcross a ha x (by simp)
    simp [hasym _ _ this]
  have hirr : lt (key x) (key x) = false := by
    cases h : lt (key x) (key x) with
    | false => rfl
    | true => exact h.symm.trans (hasym _ _ h)
  have h2 : (x :: post).filter (fun r => lt (key x) (key r)) = post := by
    rw [List.filter_cons]
    simp only [hirr, Bool.false_eq_true, if_false]
    apply List.filter_eq_self.mpr
    intro a ha
    exact hx a ha
  rw [h1, h2, List.nil_append]

theorem getLast?_take_of_pos {l : List α} {n : Nat} (hn : 1 ≤ n) (hl : l ≠ []) :
    ∃ x, (l.take n).getLast? = some x := by
  have : l.take n ≠ [] := by
    rw [Ne, List.take_eq_nil_iff]
    rintro (h | h)
    · omega
    · exact hl h
  exact ⟨_, List.getLast?_eq_some_getLast this⟩

/-- The invariant of the iteration: the cursor selects exactly the part `rest` of `l` not yet returned. -/
theorem pages_flatten (key : α → κ) (lt : κ → κ → Bool)
    (hasym : ∀ a b, lt a b = true → lt b a = false) (n : Nat) (hn : 1 ≤ n) (l : List α)
    (hs : l.Pairwise fun a b => lt (key a) (key b) = true) :
    ∀ (fuel : Nat) (rest : List α) (c : Option κ), rest.length < fuel → rest <:+ l → beyond key lt l c = rest →
      (pages key lt n l fuel c).flatten = rest := by
  intro fuel
  induction fuel with
  | zero => intro rest c hf; omega
  | succ fuel ih =>
    intro rest c hf ⟨done, hl⟩ hc
    cases rest with
    | nil => simp [pages, page, hc]
    | cons a t =>
      -- the page ends with some `y`, and what lies beyond `y` in `l` is the rest without the page
      obtain ⟨y, hy⟩ := getLast?_take_of_pos (l := a :: t) hn (by simp)
      obtain ⟨pre, hpre⟩ := List.getLast?_eq_some_iff.mp hy
      have hsplit : l = (done ++ pre) ++ y :: (a :: t).drop n :=
        calc l = done ++ ((a :: t).take n ++ (a :: t).drop n) := by rw [List.take_append_drop, hl]
          _ = _ := by rw [hpre]; simp
      have hnext : beyond key lt l (some (key y)) = (a :: t).drop n := by
        rw [hsplit] at hs ⊢
        exact filter_after_last key lt hasym _ _ y hs
      simp only [pages, page, hc, hy]
      rw [List.flatten_cons, ih _ _ (by simp only [List.length_drop, List.length_cons] at hf ⊢; omega)
        ((List.drop_suffix n _).trans ⟨done, hl⟩) hnext, List.take_append_drop]

theorem pages_from_start (key : α → κ) (lt : κ → κ → Bool)
    (hasym : ∀ a b, lt a b = true → lt b a = false) (n : Nat) (hn : 1 ≤ n) (l : List α)
    (hs : l.Pairwise fun a b => lt (key a) (key b) = true) :
    (pages key lt n l (l.length + 1) none).flatten = l :=
  pages_flatten key lt hasym n hn l hs _ l none (by omega) (List.suffix_refl l) rfl

end Discret.Query.Paging
