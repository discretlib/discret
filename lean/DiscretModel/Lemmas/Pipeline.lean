import DiscretModel.Model.Pipeline
import DiscretModel.Lemmas.Basic
/-
Lemmas about the pipeline model: frame properties of `read`/`commit`, and the invariant
"every pending mutation still holds what a read would return now", which is preserved as long as no
write happens while another mutation of the same row is pending.
-/
namespace Discret.Pipeline

theorem read_congr {db db' : Db} {op : Op} {d : Nat} (hr : db.rows op.key = db'.rows op.key)
    (hf : db.refs op.key = db'.refs op.key) : read db op d = read db' op d := by
  unfold read; rw [hr, hf]

theorem read_key {db : Db} {op : Op} {d : Nat} {p : Pending} : read db op d = some p → p.key = op.key := by
  fun_cases read db op d
  · exact fun h => nomatch h
  · exact fun h => Option.some.inj h ▸ rfl

theorem commit_rows_other (db : Db) (p : Pending) {k : Key} (h : k ≠ p.key) : (commit db p).rows k = db.rows k :=
  if_neg h

theorem commit_refs_other (db : Db) (p : Pending) {k : Key} (h : k ≠ p.key) : (commit db p).refs k = db.refs k :=
  if_neg h

theorem commit_rows_congr {a b : Db} {k : Key} (h : a.rows k = b.rows k) (p : Pending) :
    (commit a p).rows k = (commit b p).rows k := by
  simp only [commit, h]

theorem commit_refs_congr {a b : Db} {k : Key} (h : a.refs k = b.refs k) (p : Pending) :
    (commit a p).refs k = (commit b p).refs k := by
  simp only [commit, h]

theorem read_after_commit_other {db : Db} {p : Pending} {op : Op} {d : Nat} (h : op.key ≠ p.key) :
    read (commit db p) op d = read db op d :=
  read_congr (commit_rows_other db p h) (commit_refs_other db p h)

theorem Db.ext {a b : Db} (hr : ∀ k, a.rows k = b.rows k) (hf : ∀ k, a.refs k = b.refs k) : a = b := by
  cases a; cases b
  exact congr (congrArg Db.mk (funext hr)) (funext hf)

theorem commit_comm (db : Db) (p q : Pending) (h : p.key ≠ q.key) :
    commit (commit db p) q = commit (commit db q) p := by
  -- at a key that is not `q`'s, `q`'s write changes nothing, before or after `p`'s
  have rows : ∀ (p q : Pending) k, k ≠ q.key →
      (commit (commit db p) q).rows k = (commit (commit db q) p).rows k := fun p q k hk => by
    rw [commit_rows_other _ q hk, commit_rows_congr (commit_rows_other db q hk)]
  have refs : ∀ (p q : Pending) k, k ≠ q.key →
      (commit (commit db p) q).refs k = (commit (commit db q) p).refs k := fun p q k hk => by
    rw [commit_refs_other _ q hk, commit_refs_congr (commit_refs_other db q hk)]
  apply Db.ext <;> intro k <;> by_cases hk : k = q.key
  · exact (rows q p k (hk ▸ h.symm)).symm
  · exact rows p q k hk
  · exact (refs q p k (hk ▸ h.symm)).symm
  · exact refs p q k hk

theorem read_apply_other {db : Db} {a b : Op} {da d : Nat} (h : b.key ≠ a.key) :
    read (apply db a da) b d = read db b d := by
  unfold apply
  cases ha : read db a da with
  | none => rfl
  | some p => exact read_after_commit_other (read_key ha ▸ h)

theorem apply_comm (db : Db) (a b : Op) (da dbt : Nat) (h : a.key ≠ b.key) :
    apply (apply db a da) b dbt = apply (apply db b dbt) a da := by
  -- each reads what it would read alone; what is left is to swap the two writes
  rw [apply.eq_1 (apply db a da), apply.eq_1 (apply db b dbt), read_apply_other h.symm, read_apply_other h]
  unfold apply
  cases ha : read db a da with
  | none => cases read db b dbt <;> rfl
  | some p =>
    cases hb : read db b dbt with
    | none => rfl
    | some q => exact commit_comm db _ _ (read_key ha ▸ read_key hb ▸ h)

theorem serial_snoc {ops : List Op} {i : Nat} {op : Op} (h : ops[i]? = some op) (db : Db) (l : List (Nat × Nat))
    (d : Nat) : serial ops db (l ++ [(i, d)]) = apply (serial ops db l) op d := by
  induction l generalizing db with
  | nil => simp only [List.nil_append, serial, h]
  | cons x xs ih =>
    obtain ⟨j, e⟩ := x
    simp only [List.cons_append, serial]
    split <;> exact ih _

theorem keyOf_eq {ops : List Op} {i : Nat} {op : Op} (h : ops[i]? = some op) : keyOf ops i = op.key := by
  simp [keyOf, h]

def Inv (ops : List Op) (db0 : Db) (st : St) : Prop :=
  st.db = serial ops db0 st.done.reverse ∧
  ∀ e ∈ st.pend, ∃ op, ops[e.1]? = some op ∧ read st.db op e.2.1 = some e.2.2

theorem step_cases (ops : List Op) (st : St) (ev : Ev) :
    (∃ c, step ops st ev = { st with clock := c, err := true }) ∨
    (∃ i op p, ops[i]? = some op ∧ read st.db op (st.clock + 1) = some p ∧
      step ops st ev = { st with clock := st.clock + 1, pend := (i, st.clock + 1, p) :: st.pend }) ∨
    (∃ i, step ops st ev = { st with queue := st.queue ++ [i] }) ∨
    (∃ i d p q, (i, d, p) ∈ st.pend ∧
      step ops st ev = { st with
        db := commit st.db (validate p), pend := st.pend.filter (fun e => e.1 ≠ i), queue := q,
        done := (i, d) :: st.done,
        overlap := st.overlap || (st.pend.filter (fun e => e.1 ≠ i)).any (fun e => keyOf ops e.1 = keyOf ops i) }) := by
  fun_cases step ops st ev
  case case3 i op _ _ p hp =>             -- an accepted read
    exact Or.inr (Or.inl ⟨i, op, p, ‹_›, hp, rfl⟩)
  case case5 i _ =>                       -- an accepted validation
    exact Or.inr (Or.inr (Or.inl ⟨i, rfl⟩))
  case case10 i _ q _ _ i' d p hf _ =>    -- an accepted write
    have hi : i' = i := by simpa using List.find?_some hf
    subst hi
    exact Or.inr (Or.inr (Or.inr ⟨i', d, p, q, List.mem_of_find?_eq_some hf, rfl⟩))
  all_goals exact Or.inl ⟨_, rfl⟩         -- refused

theorem step_overlap (ops : List Op) (st : St) (e : Ev) (h : (step ops st e).overlap = false) :
    st.overlap = false := by
  rcases step_cases ops st e with ⟨_, eq⟩ | ⟨_, _, _, _, _, eq⟩ | ⟨_, eq⟩ | ⟨_, _, _, _, _, eq⟩
  all_goals rw [eq] at h
  · exact h
  · exact h
  · exact h
  · exact (Bool.or_eq_false_iff.mp h).1

theorem step_inv (ops : List Op) (db0 : Db) (st : St) (e : Ev) (hi : Inv ops db0 st)
    (ho : (step ops st e).overlap = false) : Inv ops db0 (step ops st e) := by
  rcases step_cases ops st e with ⟨_, eq⟩ | ⟨i, op, p, hop, hp, eq⟩ | ⟨_, eq⟩ | ⟨i, d, p, q, hmem, eq⟩
  · rw [eq]; exact hi
  · rw [eq]
    exact ⟨hi.1, fun e' he' => (List.mem_cons.mp he').elim (fun h => by rw [h]; exact ⟨op, hop, hp⟩) (hi.2 e')⟩
  · rw [eq]; exact hi
  · rw [eq] at ho ⊢
    obtain ⟨op, hop, hread⟩ := hi.2 _ hmem
    constructor
    · rw [List.reverse_cons, serial_snoc hop, ← hi.1]
      unfold apply
      rw [hread]
    · -- the other pending mutations are of other rows: their reads are not affected
      intro e' he'
      obtain ⟨hm, hne⟩ := List.mem_filter.mp he'
      obtain ⟨op', hop', hread'⟩ := hi.2 e' hm
      have hk : op'.key ≠ op.key := by
        rw [← keyOf_eq hop', ← keyOf_eq hop]
        simpa using List.any_eq_false.mp (Bool.or_eq_false_iff.mp ho).2 e' he'
      exact ⟨op', hop', (read_after_commit_other (p := validate p) (read_key hread ▸ hk)).trans hread'⟩

theorem exec_inv (ops : List Op) (db0 : Db) (s : List Ev) (st : St) (hi : Inv ops db0 st)
    (ho : (s.foldl (step ops) st).overlap = false) : Inv ops db0 (s.foldl (step ops) st) :=
  -- the flag is sticky, so a run that ends with it down had it down all along
  foldl_invariant (fun st => st.overlap = false → Inv ops db0 st) (fun _ => hi)
    (fun st e _ h ho => step_inv ops db0 st e (h (step_overlap ops st e ho)) ho) ho

theorem start_inv (ops : List Op) (db0 : Db) : Inv ops db0 (start db0) :=
  ⟨rfl, fun e he => by cases he⟩

def Distinct (ops : List Op) : Prop :=
  ∀ i j, i < ops.length → j < ops.length → i ≠ j → keyOf ops i ≠ keyOf ops j

theorem step_noOverlap (ops : List Op) (st : St) (ev : Ev) (hd : Distinct ops)
    (hv : ∀ e ∈ st.pend, e.1 < ops.length) (ho : st.overlap = false) : (step ops st ev).overlap = false := by
  rcases step_cases ops st ev with ⟨_, eq⟩ | ⟨_, _, _, _, _, eq⟩ | ⟨_, eq⟩ | ⟨i, _, _, _, hmem, eq⟩
  · rw [eq]; exact ho
  · rw [eq]; exact ho
  · rw [eq]; exact ho
  · rw [eq]
    refine Bool.or_eq_false_iff.mpr ⟨ho, List.any_eq_false.mpr fun e he => ?_⟩
    obtain ⟨hm, hne⟩ := List.mem_filter.mp he
    simpa using hd e.1 i (hv e hm) (hv _ hmem) (by simpa using hne)

theorem exec_noOverlap (ops : List Op) (db0 : Db) (s : List Ev) (st : St) (hd : Distinct ops) (hi : Inv ops db0 st)
    (ho : st.overlap = false) : (s.foldl (step ops) st).overlap = false :=
  -- `Inv` names a mutation of `ops` for every pending entry, which is what `Distinct` needs to tell their rows apart
  (foldl_invariant (fun st => Inv ops db0 st ∧ st.overlap = false) ⟨hi, ho⟩ fun st e _ h =>
    have ho' := step_noOverlap ops st e hd
      (fun e' he' => let ⟨_, hop, _⟩ := h.1.2 e' he'; (List.getElem?_eq_some_iff.mp hop).1) h.2
    ⟨step_inv ops db0 st e h.1 ho', ho'⟩).2

end Discret.Pipeline
