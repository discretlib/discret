import DiscretModel.Model.Fts
import DiscretModel.Lemmas.Basic
/-
Lemmas about the full-text index model (`Model/Fts.lean`), core Lean only: the agreement between rows
and index (`SInv`), that it gives `search = matching`, and that the maintenance rule, the intended
deletion, the intended model toggle and the intended ingestion preserve it.

The invariants read a site through membership in its rows, index and document records only, so the
operations are first characterised by membership (`mem_…`).
-/
namespace Discret.Fts

theorem foldl_max_ge (l : List Row) : ∀ (m : Nat), m ≤ l.foldl (fun m r => max m r.slot) m ∧
    ∀ r, r ∈ l → r.slot ≤ l.foldl (fun m r => max m r.slot) m := by
  induction l with
  | nil => intro m; exact ⟨Nat.le_refl _, fun r h => by cases h⟩
  | cons x xs ih =>
    intro m
    obtain ⟨h1, h2⟩ := ih (max m x.slot)
    refine ⟨Nat.le_trans (Nat.le_max_left _ _) h1, ?_⟩
    intro r hr
    rcases List.mem_cons.mp hr with h | h
    · subst h; exact Nat.le_trans (Nat.le_max_right _ _) h1
    · exact h2 r h

theorem slot_lt_nextSlot {rows : List Row} {r : Row} (h : r ∈ rows) : r.slot < nextSlot rows :=
  Nat.lt_succ_of_le ((foldl_max_ge rows 0).2 r h)

theorem findRow_some {n : Nat} {l : List Row} {r : Row} (h : findRow n l = some r) : r ∈ l ∧ r.n = n := by
  induction l with
  | nil => cases h
  | cons x xs ih =>
    simp only [findRow] at h
    split at h
    · rename_i hx
      cases h
      exact ⟨List.mem_cons_self, hx⟩
    · exact ⟨List.mem_cons_of_mem _ (ih h).1, (ih h).2⟩

theorem findRow_none {n : Nat} {l : List Row} (h : findRow n l = none) : ∀ r, r ∈ l → r.n ≠ n := by
  induction l with
  | nil => intro r hr; cases hr
  | cons x xs ih =>
    simp only [findRow] at h
    split at h
    · cases h
    · rename_i hx
      intro r hr
      rcases List.mem_cons.mp hr with h' | h'
      · subst h'; exact hx
      · exact ih h r h'

theorem mem_eraseRow {n : Nat} {l : List Row} {r : Row} : r ∈ eraseRow n l ↔ r ∈ l ∧ r.n ≠ n := by
  simp [eraseRow, List.mem_filter]

theorem mem_idxDel {slot : Slot} {text : List Word} {idx : List (Slot × Word)} {p : Slot × Word} :
    p ∈ idxDel slot text idx ↔ p ∈ idx ∧ ¬(p.1 = slot ∧ p.2 ∈ text) := by
  unfold idxDel
  rw [List.mem_filter]
  refine and_congr_right fun _ => ?_
  by_cases h : p.1 = slot <;> simp [h]

theorem mem_idxAdd {slot : Slot} {text : List Word} {idx : List (Slot × Word)} {p : Slot × Word} :
    p ∈ idxAdd slot text idx ↔ p ∈ idx ∨ (p.1 = slot ∧ p.2 ∈ text) := by
  simp only [idxAdd, List.mem_append, List.mem_map]
  refine or_congr Iff.rfl ⟨?_, ?_⟩
  · rintro ⟨w, hw, rfl⟩
    exact ⟨rfl, hw⟩
  · rintro ⟨h1, h2⟩
    exact ⟨p.2, h2, by rw [← h1]⟩

theorem mem_docDel {slot x : Slot} {docs : List Slot} : x ∈ docDel slot docs ↔ x ∈ docs ∧ x ≠ slot := by
  simp [docDel, List.mem_filter]

theorem mem_dropEntries {docs : List Slot} {r : Row} {idx : List (Slot × Word)} {p : Slot × Word} :
    p ∈ dropEntries docs r idx ↔ p ∈ idx ∧ (r.slot ∈ docs → ¬(p.1 = r.slot ∧ p.2 ∈ r.text)) := by
  unfold dropEntries
  by_cases h : r.slot ∈ docs
  · simp [h, mem_idxDel]
  · simp [h]

theorem mem_foldl_dropEntries {docs : List Slot} (g : List Row) : ∀ {idx : List (Slot × Word)} {p : Slot × Word},
    p ∈ g.foldl (fun i r => dropEntries docs r i) idx ↔
      p ∈ idx ∧ ∀ r, r ∈ g → r.slot ∈ docs → ¬(p.1 = r.slot ∧ p.2 ∈ r.text) := by
  induction g with
  | nil => simp
  | cons x xs ih =>
    intro idx p
    rw [List.foldl_cons, ih, mem_dropEntries, and_assoc]
    simp only [List.mem_cons, forall_eq_or_imp]

theorem mem_writeInsert_rows {index : Bool} {new x : Row} {s : Site} :
    x ∈ (writeInsert index new s).rows ↔ x ∈ s.rows ∨ x = { new with slot := nextSlot s.rows } := by
  show x ∈ s.rows ++ [_] ↔ _
  rw [List.mem_append, List.mem_singleton]

/-- both writes add the entries of the new text, and the document record, when `index` is on -/
theorem mem_ite_idxAdd {index : Bool} {slot : Slot} {text : List Word} {i : List (Slot × Word)} {p : Slot × Word} :
    p ∈ (if index = true then idxAdd slot text i else i) ↔ p ∈ i ∨ (index = true ∧ p.1 = slot ∧ p.2 ∈ text) := by
  cases index
  · simp
  · simp [mem_idxAdd]

theorem mem_ite_snoc {index : Bool} {l : List Slot} {a y : Slot} :
    y ∈ (if index = true then l ++ [a] else l) ↔ y ∈ l ∨ (index = true ∧ y = a) := by
  cases index <;> simp

theorem mem_writeInsert_idx {index : Bool} {new : Row} {s : Site} {p : Slot × Word} :
    p ∈ (writeInsert index new s).idx ↔ p ∈ s.idx ∨ (index = true ∧ p.1 = nextSlot s.rows ∧ p.2 ∈ new.text) :=
  mem_ite_idxAdd

theorem mem_writeInsert_docs {index : Bool} {new : Row} {s : Site} {y : Slot} :
    y ∈ (writeInsert index new s).docs ↔ y ∈ s.docs ∨ (index = true ∧ y = nextSlot s.rows) :=
  mem_ite_snoc

theorem mem_writeUpdate_rows {ung index : Bool} {old new x : Row} {prev : Option (List Word)} {s : Site} :
    x ∈ (writeUpdate ung index old new prev s).rows ↔ (x ∈ s.rows ∧ x.n ≠ old.n) ∨ x = { new with slot := old.slot } := by
  show x ∈ eraseRow old.n s.rows ++ [_] ↔ _
  rw [List.mem_append, mem_eraseRow, List.mem_singleton]

/-- the previous text `Node::write` is given: the text of the row, or nothing when that text is empty -/
def PrevText (old : Row) (prev : Option (List Word)) : Prop := prev = some old.text ∨ (prev = none ∧ old.text = [])

theorem mem_writeUpdate_idx {ung index : Bool} {old new : Row} {prev : Option (List Word)} {s : Site}
    (hp : PrevText old prev) {p : Slot × Word} :
    p ∈ (writeUpdate ung index old new prev s).idx ↔
      (p ∈ s.idx ∧ ¬(deletesPrev ung index old.slot s.docs = true ∧ p.1 = old.slot ∧ p.2 ∈ old.text)) ∨
      (index = true ∧ p.1 = old.slot ∧ p.2 ∈ new.text) := by
  refine mem_ite_idxAdd.trans (or_congr_left ?_)
  rcases hp with rfl | ⟨rfl, ht⟩
  · dsimp only
    split <;> simp [mem_idxDel, *]
  · simp [ht]

theorem mem_writeUpdate_docs {ung index : Bool} {old new : Row} {prev : Option (List Word)} {s : Site} {y : Slot} :
    y ∈ (writeUpdate ung index old new prev s).docs ↔
      (y ∈ s.docs ∧ ¬(prev.isSome = true ∧ deletesPrev ung index old.slot s.docs = true ∧ y = old.slot)) ∨
      (index = true ∧ y = old.slot) := by
  refine mem_ite_snoc.trans (or_congr_left ?_)
  cases prev with
  | none => simp
  | some q =>
    dsimp only
    split <;> simp [mem_docDel, *]

theorem mem_toggleIdx {s : Site} {on : Ent → Bool} {p : Slot × Word} :
    p ∈ toggleIdx s on ↔
      (p ∈ s.idx ∧ ∀ r, r ∈ s.rows → r.slot = p.1 → s.indexOn r.ent = on r.ent) ∨
      (∃ r, r ∈ s.rows ∧ on r.ent = true ∧ s.indexOn r.ent = false ∧ r.slot = p.1 ∧ p.2 ∈ r.text) := by
  simp only [toggleIdx, List.mem_append, List.mem_filter, List.mem_flatMap, List.mem_map, Bool.not_eq_true',
    List.any_eq_false, Bool.and_eq_true, decide_eq_true_eq, bne_iff_ne, ne_eq, not_and, Decidable.not_not]
  refine or_congr Iff.rfl ⟨?_, ?_⟩
  · rintro ⟨r, ⟨hr, h1, h2⟩, w, hw, rfl⟩
    exact ⟨r, hr, h1, h2, rfl, hw⟩
  · rintro ⟨r, hr, h1, h2, h3, h4⟩
    exact ⟨r, ⟨hr, h1, h2⟩, p.2, h4, by rw [h3]⟩

theorem mem_toggleDocs {s : Site} {on : Ent → Bool} {y : Slot} :
    y ∈ toggleDocs s on ↔
      (y ∈ s.docs ∧ ∀ r, r ∈ s.rows → r.slot = y → s.indexOn r.ent = on r.ent) ∨
      (∃ r, r ∈ s.rows ∧ on r.ent = true ∧ s.indexOn r.ent = false ∧ r.slot = y) := by
  simp only [toggleDocs, List.mem_append, List.mem_filter, List.mem_map, Bool.not_eq_true',
    List.any_eq_false, Bool.and_eq_true, decide_eq_true_eq, bne_iff_ne, ne_eq, not_and, Decidable.not_not]
  refine or_congr Iff.rfl ⟨?_, ?_⟩
  · rintro ⟨r, ⟨hr, h1, h2⟩, rfl⟩
    exact ⟨r, hr, h1, h2, rfl⟩
  · rintro ⟨r, hr, h1, h2, h3⟩
    exact ⟨r, ⟨hr, h1, h2⟩, h3⟩

/-- a row number names one row of the site, and so does a storage slot -/
structure RowsOK (rows : List Row) : Prop where
  byN : ∀ a, a ∈ rows → ∀ b, b ∈ rows → a.n = b.n → a = b
  bySlot : ∀ a, a ∈ rows → ∀ b, b ∈ rows → a.slot = b.slot → a = b

theorem RowsOK.subset {A B : List Row} (h : RowsOK A) (hs : ∀ x, x ∈ B → x ∈ A) : RowsOK B :=
  ⟨fun a ha b hb => h.byN a (hs a ha) b (hs b hb), fun a ha b hb => h.bySlot a (hs a ha) b (hs b hb)⟩

theorem RowsOK.nil : RowsOK [] := ⟨fun _ ha => absurd ha List.not_mem_nil, fun _ ha => absurd ha List.not_mem_nil⟩

theorem RowsOK.add {A B : List Row} {x : Row} (h : RowsOK A)
    (hB : ∀ r, r ∈ B → (r ∈ A ∧ r.n ≠ x.n ∧ r.slot ≠ x.slot) ∨ r = x) : RowsOK B := by
  constructor
  · intro a ha b hb hab
    rcases hB a ha with ⟨a1, a2, _⟩ | rfl <;> rcases hB b hb with ⟨b1, b2, _⟩ | rfl
    · exact h.byN a a1 b b1 hab
    · exact absurd hab a2
    · exact absurd hab.symm b2
    · rfl
  · intro a ha b hb hab
    rcases hB a ha with ⟨a1, _, a2⟩ | rfl <;> rcases hB b hb with ⟨b1, _, b2⟩ | rfl
    · exact h.bySlot a a1 b b1 hab
    · exact absurd hab a2
    · exact absurd hab.symm b2
    · rfl

theorem RowsOK.insert {s : Site} (h : RowsOK s.rows) (index : Bool) (new : Row) (hn : ∀ r, r ∈ s.rows → r.n ≠ new.n) :
    RowsOK (writeInsert index new s).rows :=
  h.add (x := { new with slot := nextSlot s.rows }) fun r hr => (mem_writeInsert_rows.mp hr).imp_left fun hr' =>
    ⟨hr', hn r hr', Nat.ne_of_lt (slot_lt_nextSlot hr')⟩

theorem RowsOK.slot_ne {rows : List Row} (h : RowsOK rows) {r old : Row} (hr : r ∈ rows) (ho : old ∈ rows)
    (hne : r.n ≠ old.n) : r.slot ≠ old.slot :=
  fun hs => hne (by rw [h.bySlot r hr old ho hs])

theorem RowsOK.update {s : Site} (h : RowsOK s.rows) (ung index : Bool) {old : Row} (new : Row)
    (prev : Option (List Word)) (ho : old ∈ s.rows) (hn : new.n = old.n) :
    RowsOK (writeUpdate ung index old new prev s).rows :=
  h.add (x := { new with slot := old.slot }) fun _ hr => (mem_writeUpdate_rows.mp hr).imp_left fun hr' =>
    ⟨hr'.1, fun e => hr'.2 (e.trans hn), h.slot_ne (old := old) hr'.1 ho hr'.2⟩

theorem RowsOK.forall_n {rows : List Row} (h : RowsOK rows) {old : Row} (ho : old ∈ rows) {Q : Row → Prop} :
    (∀ r, r ∈ rows → r.n = old.n → Q r) ↔ Q old :=
  ⟨fun hq => hq old ho rfl, fun hq r hr hrn => h.byN r hr old ho hrn ▸ hq⟩

/-- the deletion of one row, in the terms of `SInv.remove` -/
theorem RowsOK.mem_dropEntries {s : Site} (h : RowsOK s.rows) {old : Row} (ho : old ∈ s.rows) {p : Slot × Word} :
    p ∈ dropEntries s.docs old s.idx ↔ p ∈ s.idx ∧
      ∀ r, r ∈ s.rows → r.n = old.n → r.slot ∈ s.docs → ¬(p.1 = r.slot ∧ p.2 ∈ r.text) :=
  Discret.Fts.mem_dropEntries.trans (and_congr_right fun _ =>
    (h.forall_n ho (Q := fun r => r.slot ∈ s.docs → ¬(p.1 = r.slot ∧ p.2 ∈ r.text))).symm)

theorem RowsOK.mem_docDel {s : Site} (h : RowsOK s.rows) {old : Row} (ho : old ∈ s.rows) {y : Slot} :
    y ∈ docDel old.slot s.docs ↔ y ∈ s.docs ∧ ∀ r, r ∈ s.rows → r.n = old.n → y ≠ r.slot :=
  Discret.Fts.mem_docDel.trans (and_congr_right fun _ => (h.forall_n ho (Q := fun r => y ≠ r.slot)).symm)

/-- the index of a site agrees with its rows: every entry is a word of the current text of an indexed row
    (`sound`), every word of an indexed row has its entry (`complete`), every indexed row its document record -/
def SInv (s : Site) : Prop :=
  RowsOK s.rows ∧
  (∀ p, p ∈ s.idx → ∃ r, r ∈ s.rows ∧ r.slot = p.1 ∧ s.indexOn r.ent = true ∧ p.2 ∈ r.text) ∧
  (∀ r, r ∈ s.rows → s.indexOn r.ent = true → ∀ w, w ∈ r.text → (r.slot, w) ∈ s.idx) ∧
  (∀ r, r ∈ s.rows → s.indexOn r.ent = true → r.slot ∈ s.docs)

theorem SInv.rows {s : Site} (h : SInv s) : RowsOK s.rows := h.1

theorem SInv.sound {s : Site} (h : SInv s) {p : Slot × Word} (hp : p ∈ s.idx) :
    ∃ r, r ∈ s.rows ∧ r.slot = p.1 ∧ s.indexOn r.ent = true ∧ p.2 ∈ r.text := h.2.1 p hp

theorem SInv.complete {s : Site} (h : SInv s) {r : Row} (hr : r ∈ s.rows) (he : s.indexOn r.ent = true) {w : Word}
    (hw : w ∈ r.text) : (r.slot, w) ∈ s.idx := h.2.2.1 r hr he w hw

theorem SInv.docs {s : Site} (h : SInv s) {r : Row} (hr : r ∈ s.rows) (he : s.indexOn r.ent = true) : r.slot ∈ s.docs :=
  h.2.2.2 r hr he

theorem sinv_empty : SInv Site.empty :=
  ⟨.nil, fun _ hp => absurd hp List.not_mem_nil, fun _ hr => absurd hr List.not_mem_nil,
    fun _ hr => absurd hr List.not_mem_nil⟩

theorem SInv.contains_iff {s : Site} (h : SInv s) {r : Row} (hr : r ∈ s.rows) (he : s.indexOn r.ent = true)
    (t : Word) : s.idx.contains (r.slot, t) = r.text.contains t := by
  apply Bool.eq_iff_iff.mpr
  simp only [List.contains_iff_mem]
  constructor
  · intro hm
    obtain ⟨r', hr', hs, _, hw⟩ := h.sound hm
    rw [← h.rows.bySlot r' hr' r hr hs]
    exact hw
  · exact h.complete hr he

theorem search_eq_matching {s : Site} (h : SInv s) (e : Ent) (he : s.indexOn e = true) (t : Word) :
    search s e t = matching s e t := by
  unfold search matching
  congr 1
  apply List.filter_congr
  intro r hr
  by_cases hre : r.ent = e
  · rw [h.contains_iff hr (hre ▸ he)]
  · simp [hre]

/-- entity 0 is `Doc`; the child is joined on its own slot, so `contains_iff` is used at the child -/
theorem nsearch_eq_nmatching {s : Site} (h : SInv s) (he : s.indexOn 0 = true) (t : Word) :
    nsearch s t = nmatching s t := by
  unfold nsearch nmatching nestedBy
  congr 2
  apply List.map_congr_left
  intro p _
  unfold kidsOf
  congr 3
  apply List.filter_congr
  intro c hc
  by_cases hce : c.ent = 0
  · simp only [h.contains_iff hc (hce ▸ he)]
  · simp [hce]

theorem writeInsert_inv {s : Site} (h : SInv s) (new : Row) (hn : ∀ r, r ∈ s.rows → r.n ≠ new.n) :
    SInv (writeInsert (s.indexOn new.ent) new s) := by
  obtain ⟨h1, h2, h3, h4⟩ := h
  refine ⟨h1.insert _ new hn, ?_, ?_, ?_⟩
  · intro p hp
    rcases mem_writeInsert_idx.mp hp with hp | ⟨hi, hp1, hp2⟩
    · obtain ⟨r, hr, a⟩ := h2 p hp
      exact ⟨r, mem_writeInsert_rows.mpr (.inl hr), a⟩
    · exact ⟨_, mem_writeInsert_rows.mpr (.inr rfl), hp1.symm, hi, hp2⟩
  · intro r hr hon w hw
    rcases mem_writeInsert_rows.mp hr with hr | rfl
    · exact mem_writeInsert_idx.mpr (.inl (h3 r hr hon w hw))
    · exact mem_writeInsert_idx.mpr (.inr ⟨hon, rfl, hw⟩)
  · intro r hr hon
    rcases mem_writeInsert_rows.mp hr with hr | rfl
    · exact mem_writeInsert_docs.mpr (.inl (h4 r hr hon))
    · exact mem_writeInsert_docs.mpr (.inr ⟨hon, rfl⟩)

theorem writeUpdate_inv {s : Site} (h : SInv s) (ung : Bool) (old new : Row) (ho : old ∈ s.rows)
    (hn : new.n = old.n) (he : new.ent = old.ent) (prev : Option (List Word)) (hp : PrevText old prev) :
    SInv (writeUpdate ung (s.indexOn old.ent) old new prev s) := by
  obtain ⟨h1, h2, h3, h4⟩ := h
  -- an indexed row has its document record, so the 'delete' of its previous text is issued, guarded or not
  have hdel : s.indexOn old.ent = true → deletesPrev ung (s.indexOn old.ent) old.slot s.docs = true := by
    intro hi
    unfold deletesPrev
    cases ung with
    | true => simpa using hi
    | false => simpa using h4 old ho hi
  refine ⟨h1.update _ _ new prev ho hn, ?_, ?_, ?_⟩
  · intro p hp'
    rcases (mem_writeUpdate_idx hp).mp hp' with ⟨hin, hleft⟩ | ⟨hi, hp1, hp2⟩
    · -- an entry the 'delete' left: not one of `old`
      obtain ⟨r, hr, a, b, c⟩ := h2 p hin
      refine ⟨r, mem_writeUpdate_rows.mpr (.inl ⟨hr, fun hrn => ?_⟩), a, b, c⟩
      obtain rfl := h1.byN r hr old ho hrn
      exact hleft ⟨hdel b, a.symm, c⟩
    · exact ⟨_, mem_writeUpdate_rows.mpr (.inr rfl), hp1.symm, he ▸ hi, hp2⟩
  · intro r hr hon w hw
    rcases mem_writeUpdate_rows.mp hr with ⟨hr, hne⟩ | rfl
    · exact (mem_writeUpdate_idx hp).mpr (.inl ⟨h3 r hr hon w hw, fun hd => h1.slot_ne hr ho hne hd.2.1⟩)
    · exact (mem_writeUpdate_idx hp).mpr (.inr ⟨he ▸ hon, rfl, hw⟩)
  · intro r hr hon
    rcases mem_writeUpdate_rows.mp hr with ⟨hr, hne⟩ | rfl
    · exact mem_writeUpdate_docs.mpr (.inl ⟨h4 r hr hon, fun hd => h1.slot_ne hr ho hne hd.2.2⟩)
    · exact mem_writeUpdate_docs.mpr (.inr ⟨he ▸ hon, rfl⟩)

/-- removing rows together with the index entries of their texts and their document records (the repaired
    deletion: a 'delete' for each row that has a document record) -/
theorem SInv.remove {s s' : Site} (h : SInv s) (gone : Row → Prop)
    (hrows : ∀ r, r ∈ s'.rows ↔ r ∈ s.rows ∧ ¬gone r)
    (hidx : ∀ p, p ∈ s'.idx ↔
      p ∈ s.idx ∧ ∀ r, r ∈ s.rows → gone r → r.slot ∈ s.docs → ¬(p.1 = r.slot ∧ p.2 ∈ r.text))
    (hdocs : ∀ y, y ∈ s'.docs ↔ y ∈ s.docs ∧ ∀ r, r ∈ s.rows → gone r → y ≠ r.slot)
    (hflag : s'.indexOn = s.indexOn) : SInv s' := by
  obtain ⟨h1, h2, h3, h4⟩ := h
  have hslot : ∀ r, r ∈ s'.rows → ∀ g, g ∈ s.rows → gone g → r.slot ≠ g.slot := by
    intro r hr g hg hgone hs
    obtain ⟨hr', hng⟩ := (hrows r).mp hr
    exact hng (h1.bySlot r hr' g hg hs ▸ hgone)
  refine ⟨h1.subset fun x hx => ((hrows x).mp hx).1, ?_, ?_, ?_⟩
  · intro p hp
    obtain ⟨hin, hno⟩ := (hidx p).mp hp
    obtain ⟨r, hr, a, b, c⟩ := h2 p hin
    exact ⟨r, (hrows r).mpr ⟨hr, fun hg => hno r hr hg (h4 r hr b) ⟨a.symm, c⟩⟩, a, hflag ▸ b, c⟩
  · intro r hr hon w hw
    rw [hflag] at hon
    exact (hidx _).mpr ⟨h3 r ((hrows r).mp hr).1 hon w hw, fun g hg hgone _ hs => hslot r hr g hg hgone hs.1⟩
  · intro r hr hon
    rw [hflag] at hon
    exact (hdocs _).mpr ⟨h4 r ((hrows r).mp hr).1 hon, fun g hg hgone => hslot r hr g hg hgone⟩

theorem del_inv {s : Site} (h : SInv s) (old : Row) (ho : old ∈ s.rows) :
    SInv { s with rows := eraseRow old.n s.rows, idx := dropEntries s.docs old s.idx,
                  docs := docDel old.slot s.docs } :=
  h.remove (fun r => r.n = old.n) (fun _ => mem_eraseRow) (fun _ => h.rows.mem_dropEntries ho)
    (fun _ => h.rows.mem_docDel ho) rfl

theorem toggle_inv {s : Site} (h : SInv s) (on : Ent → Bool) :
    SInv { s with indexOn := on, idx := toggleIdx s on, docs := toggleDocs s on } := by
  obtain ⟨h1, h2, h3, h4⟩ := h
  -- a row that keeps its flag keeps its entries and its document record: no other row has its slot
  have hsame : ∀ r, r ∈ s.rows → s.indexOn r.ent = on r.ent →
      ∀ r', r' ∈ s.rows → r'.slot = r.slot → s.indexOn r'.ent = on r'.ent :=
    fun r hr h r' hr' hs => by rw [h1.bySlot r' hr' r hr hs]; exact h
  refine ⟨h1, ?_, ?_, ?_⟩
  · intro p hp
    rcases mem_toggleIdx.mp hp with ⟨hin, hsame⟩ | ⟨r, hr, hon, _, hs, hw⟩
    · obtain ⟨r, hr, a, b, c⟩ := h2 p hin
      exact ⟨r, hr, a, (hsame r hr a).symm.trans b, c⟩
    · exact ⟨r, hr, hs, hon, hw⟩
  · intro r hr hon w hw
    apply mem_toggleIdx.mpr
    cases hold : s.indexOn r.ent with
    | true => exact .inl ⟨h3 r hr hold w hw, hsame r hr (hold.trans hon.symm)⟩
    | false => exact .inr ⟨r, hr, hon, hold, rfl, hw⟩
  · intro r hr hon
    apply mem_toggleDocs.mpr
    cases hold : s.indexOn r.ent with
    | true => exact .inl ⟨h4 r hr hold, hsame r hr (hold.trans hon.symm)⟩
    | false => exact .inr ⟨r, hr, hon, hold, rfl⟩

/-- a model version that changes the flags only (no re-indexing) keeps the agreement when every row's entity
    keeps its flag — i.e. when the entities whose flag changes have no row at the site -/
theorem flagOnly_inv {s : Site} (h : SInv s) (on : Ent → Bool)
    (hsafe : ∀ r, r ∈ s.rows → on r.ent = s.indexOn r.ent) : SInv { s with indexOn := on } := by
  obtain ⟨h1, h2, h3, h4⟩ := h
  refine ⟨h1, ?_, ?_, ?_⟩
  · intro p hp
    obtain ⟨r, hr, a, b, c⟩ := h2 p hp
    exact ⟨r, hr, a, (hsafe r hr).trans b, c⟩
  · intro r hr hon w hw
    exact h3 r hr ((hsafe r hr).symm.trans hon) w hw
  · intro r hr hon
    exact h4 r hr ((hsafe r hr).symm.trans hon)

theorem mem_insertByCtick {r x : Row} {l : List Row} : x ∈ insertByCtick r l ↔ x = r ∨ x ∈ l := by
  induction l with
  | nil => simp [insertByCtick]
  | cons h t ih =>
    simp only [insertByCtick]
    split
    · simp
    · simp only [List.mem_cons, ih, or_left_comm]

theorem mem_sortByCtick (l : List Row) : ∀ (acc : List Row) (x : Row),
    x ∈ l.foldl (fun acc r => insertByCtick r acc) acc ↔ x ∈ l ∨ x ∈ acc := by
  induction l with
  | nil => simp
  | cons h t ih =>
    intro acc x
    rw [List.foldl_cons, ih, mem_insertByCtick, List.mem_cons, or_left_comm, or_assoc]

theorem pullOp_keeps {P : Site → Prop} {d : Defects} {src : Site}
    (hR : ∀ s r, r ∈ src.rows → P s → P (ingestRow d s r)) (hT : ∀ s e, P s → P (pullTombs d src e s))
    (hL : ∀ s l, P s → P { s with logged := l }) {dst : Site} (h : P dst) : P (pullOp d src dst) := by
  unfold pullOp
  refine foldl_invariant P h fun acc e _ ha => ?_
  unfold pullRows
  refine hL _ _ (foldl_invariant P (hT acc e ha) fun s r hr => hR s r ?_)
  have := ((mem_sortByCtick _ _ _).mp hr).resolve_right List.not_mem_nil
  exact (List.mem_filter.mp (List.mem_filter.mp this).1).1

/-- every row of `A` has a row of `B` with its number and its entity -/
def Keys (A B : List Row) : Prop := ∀ x, x ∈ A → ∃ y, y ∈ B ∧ y.n = x.n ∧ y.ent = x.ent

/-- a row number means the same entity in `A` and in `B` -/
def Compat (A B : List Row) : Prop := ∀ a, a ∈ A → ∀ b, b ∈ B → a.n = b.n → a.ent = b.ent

theorem RowsOK.compat {rows : List Row} (h : RowsOK rows) : Compat rows rows := by
  intro a ha b hb hn
  rw [h.byN a ha b hb hn]

theorem pullTombs_noTombs (d : Defects) {src : Site} (e : Ent) (dst : Site) (hn : src.tombs = []) :
    pullTombs d src e dst = dst := by
  have keep {α : Type} (l : List α) : l.filter (fun _ => true) = l := List.filter_eq_self.mpr fun _ _ => rfl
  have drop {α : Type} (l : List α) : l.filter (fun _ => false) = [] := List.filter_eq_nil_iff.mpr (by simp)
  unfold pullTombs
  simp [hn, keep, drop]

def Entombed (src : Site) (e : Ent) (r : Row) : Prop := ∃ t, t ∈ src.tombs ∧ t.ent = e ∧ t.n = r.n

theorem any_tombs_iff {src : Site} {e : Ent} {r : Row} :
    ((src.tombs.filter fun t => t.ent = e).any fun t => t.n = r.n) = true ↔ Entombed src e r := by
  simp [Entombed]

theorem mem_pullTombs_rows {d : Defects} {src dst : Site} {e : Ent} {r : Row} :
    r ∈ (pullTombs d src e dst).rows ↔ r ∈ dst.rows ∧ ¬Entombed src e r := by
  show r ∈ dst.rows.filter _ ↔ _
  rw [List.mem_filter, Bool.not_eq_true', ← Bool.not_eq_true, any_tombs_iff]

theorem mem_pullTombs_idx {d : Defects} (hd : d.deleteLeavesIndex = false) {src dst : Site} {e : Ent}
    {p : Slot × Word} :
    p ∈ (pullTombs d src e dst).idx ↔ p ∈ dst.idx ∧
      ∀ r, r ∈ dst.rows → Entombed src e r → r.slot ∈ dst.docs → ¬(p.1 = r.slot ∧ p.2 ∈ r.text) := by
  unfold pullTombs
  simp only [hd, Bool.false_eq_true, ↓reduceIte, mem_foldl_dropEntries, List.mem_filter, any_tombs_iff, and_imp]

theorem mem_pullTombs_docs {d : Defects} (hd : d.deleteLeavesIndex = false) {src dst : Site} {e : Ent} {y : Slot} :
    y ∈ (pullTombs d src e dst).docs ↔ y ∈ dst.docs ∧ ∀ r, r ∈ dst.rows → Entombed src e r → y ≠ r.slot := by
  unfold pullTombs
  simp only [hd, Bool.false_eq_true, ↓reduceIte, List.mem_filter, Bool.not_eq_true', List.any_eq_false,
    decide_eq_true_eq, any_tombs_iff, and_imp, ne_comm, ne_eq]

/-- what an ingestion keeps of its destination: the agreement, the flags, and rows numbered like rows of `K` -/
def PInv (on : Ent → Bool) (K : List Row) (s : Site) : Prop := SInv s ∧ s.indexOn = on ∧ Keys s.rows K

theorem pullTombs_pinv {d : Defects} {src : Site} (hd : d.deleteLeavesIndex = true → src.tombs = []) (e : Ent)
    {on : Ent → Bool} {K : List Row} {dst : Site} (h : PInv on K dst) : PInv on K (pullTombs d src e dst) := by
  obtain ⟨h1, h2, h3⟩ := h
  cases hdl : d.deleteLeavesIndex with
  | false =>
    exact ⟨h1.remove (Entombed src e) (fun _ => mem_pullTombs_rows) (fun _ => mem_pullTombs_idx hdl)
      (fun _ => mem_pullTombs_docs hdl) rfl, h2, fun x hx => h3 x (mem_pullTombs_rows.mp hx).1⟩
  | true =>
    rw [pullTombs_noTombs d e dst (hd hdl)]
    exact ⟨h1, h2, h3⟩

/-- a fetched row is written like a local one, provided the rows numbered like it are of its entity -/
theorem ingestRow_pinv {d : Defects} (hd : d.ingestUnindexed = false) {on : Ent → Bool} {K : List Row} {dst : Site}
    (h : PInv on K dst) {r : Row} (hr : r ∈ K) (hc : ∀ y, y ∈ K → y.n = r.n → y.ent = r.ent) :
    PInv on K (ingestRow d dst r) := by
  obtain ⟨h1, h2, h3⟩ := h
  unfold ingestRow
  simp only [hd, Bool.not_false, Bool.true_and]
  split
  · rename_i old hf
    obtain ⟨ho, hon⟩ := findRow_some hf
    have he : r.ent = old.ent := by
      obtain ⟨y, hy, e1, e2⟩ := h3 old ho
      rw [← e2]
      exact (hc y hy (e1.trans hon)).symm
    rw [he]
    refine ⟨writeUpdate_inv h1 d.deleteUnguarded old r ho hon.symm he (some old.text) (.inl rfl), h2, fun x hx => ?_⟩
    rcases mem_writeUpdate_rows.mp hx with h' | rfl
    · exact h3 x h'.1
    · exact ⟨r, hr, rfl, rfl⟩
  · rename_i hf
    refine ⟨writeInsert_inv h1 r (findRow_none hf), h2, fun x hx => ?_⟩
    rcases mem_writeInsert_rows.mp hx with h' | rfl
    · exact h3 x h'
    · exact ⟨r, hr, rfl, rfl⟩

theorem pullOp_inv (d : Defects) (src : Site) (hd1 : d.deleteLeavesIndex = true → src.tombs = [])
    (hd2 : d.ingestUnindexed = false) (hs : RowsOK src.rows) {dst : Site} (h : SInv dst) (hc : Compat dst.rows src.rows) :
    SInv (pullOp d src dst) ∧ Keys (pullOp d src dst).rows (dst.rows ++ src.rows) := by
  have hsrc : ∀ r, r ∈ src.rows → ∀ y, y ∈ dst.rows ++ src.rows → y.n = r.n → y.ent = r.ent := by
    intro r hr y hy hn
    rcases List.mem_append.mp hy with h' | h'
    · exact hc y h' r hr hn
    · exact hs.compat y h' r hr hn
  have := pullOp_keeps (P := PInv dst.indexOn (dst.rows ++ src.rows)) (d := d) (src := src)
    (fun s r hr hp => ingestRow_pinv hd2 hp (List.mem_append.mpr (.inr hr)) (hsrc r hr))
    (fun s e hp => pullTombs_pinv hd1 e hp) (fun _ _ hp => hp)
    ⟨h, rfl, fun x hx => ⟨x, List.mem_append.mpr (.inl hx), rfl, rfl⟩⟩
  exact ⟨this.1, this.2.2⟩

end Discret.Fts
