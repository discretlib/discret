import DiscretModel.Lemmas.SyncBatches
/-
C11: a row that carries a deletion record is never stored again.
A property of the rows and node deletion records of a replica that pulls and guarded local writes keep (`Kept`) holds
on every replica, and on the committed state behind an open batch, after every op of a schedule (`exec_keeps`), and no
step forgets a deletion record (`KeepsRecords`). Once ingestion consults the deletion log, a pull keeps every stored
version of a row apart from the deletion records of the row in any sense `Q` that covers what a synchronised deletion
leaves and what the lookup does not see (`Apart`, `pull_apart`); in the intended behaviour — a deletion record removes
every version of its row — nothing is left and `NoZombie` is such a property.
-/
namespace Discret.Sync
open Discret.DailyLog

def NoZombie (r : Replica) : Prop := ∀ t ∈ r.ntombs, ∀ n ∈ r.nodes, n.id ≠ t.id

def Replica.deadIds (r : Replica) : List Nat := r.ntombs.map (·.id)

theorem noZombie_iff (r : Replica) : NoZombie r ↔ ∀ n ∈ r.nodes, n.id ∉ r.deadIds := by
  unfold NoZombie Replica.deadIds
  constructor
  · intro h n hn hm
    obtain ⟨t, ht, e⟩ := List.mem_map.mp hm
    exact h t ht n hn e.symm
  · intro h t ht n hn e
    exact h n hn (List.mem_map.mpr ⟨t, ht, e.symm⟩)

theorem mem_replaceNode {n x : Node} {l : List Node} (h : x ∈ replaceNode n l) :
    x ∈ l ∨ x = n ∧ ∃ y ∈ l, y.id = n.id := by
  unfold replaceNode at h
  obtain ⟨y, hy, e⟩ := List.mem_map.mp h
  split at e
  · rename_i hid; exact Or.inr ⟨e.symm, y, hy, hid⟩
  · exact Or.inl (e ▸ hy)

theorem mem_putNode {n x : Node} {l : List Node} (h : x ∈ putNode n l) : x = n ∨ x ∈ l := by
  unfold putNode at h
  split at h
  · rcases mem_replaceNode h with h | h
    · exact Or.inr h
    · exact Or.inl h.1
  · rcases List.mem_append.mp h with h | h
    · exact Or.inr h
    · exact Or.inl (List.mem_singleton.mp h)

theorem mem_putNTomb {t x : NTomb} {l : List NTomb} (h : x ∈ putNTomb t l) : x = t ∨ x ∈ l := by
  unfold putNTomb at h
  split at h
  · obtain ⟨y, hy, e⟩ := List.mem_map.mp h
    split at e
    · exact Or.inl e.symm
    · exact Or.inr (e ▸ hy)
  · rcases List.mem_append.mp h with h | h
    · exact Or.inr h
    · exact Or.inl (List.mem_singleton.mp h)

theorem self_mem_putNTomb (t : NTomb) (l : List NTomb) : t ∈ putNTomb t l := by
  unfold putNTomb
  split
  · rename_i hany
    obtain ⟨y, hy, hpk⟩ := List.any_eq_true.mp hany
    exact List.mem_map.mpr ⟨y, hy, if_pos hpk⟩
  · exact List.mem_append_right _ (List.mem_singleton.mpr rfl)

/-- a stored record is overwritten only by a record of the same primary key: same row, same room -/
theorem putNTomb_keeps (t : NTomb) {l : List NTomb} {x : NTomb} (hx : x ∈ l) :
    ∃ u ∈ putNTomb t l, u.id = x.id ∧ u.room = x.room := by
  unfold putNTomb
  split
  · by_cases hpk : t.samePk x = true
    · refine ⟨t, List.mem_map.mpr ⟨x, hx, if_pos hpk⟩, ?_⟩
      simp only [NTomb.samePk, Bool.and_eq_true, decide_eq_true_eq] at hpk
      exact ⟨hpk.1.2.symm, hpk.1.1.1.symm⟩
    · exact ⟨x, List.mem_map.mpr ⟨x, hx, if_neg hpk⟩, rfl, rfl⟩
  · exact ⟨x, List.mem_append_left _ hx, rfl, rfl⟩

theorem ids_putNTomb (t : NTomb) (l : List NTomb) (i : Nat) :
    i ∈ (putNTomb t l).map (·.id) ↔ i = t.id ∨ i ∈ l.map (·.id) := by
  simp only [List.mem_map]
  constructor
  · rintro ⟨x, hx, rfl⟩
    rcases mem_putNTomb hx with e | e
    · exact Or.inl (e ▸ rfl)
    · exact Or.inr ⟨x, e, rfl⟩
  · rintro (rfl | ⟨x, hx, rfl⟩)
    · exact ⟨t, self_mem_putNTomb t l, rfl⟩
    · obtain ⟨u, hu, e, _⟩ := putNTomb_keeps t hx
      exact ⟨u, hu, e⟩

theorem applyETombs_same (rights : Rights) (dst : Replica) (ts : List ETomb) :
    (applyETombs rights dst ts).nodes = dst.nodes ∧ (applyETombs rights dst ts).ntombs = dst.ntombs :=
  foldl_invariant (fun r : Replica => r.nodes = dst.nodes ∧ r.ntombs = dst.ntombs) ⟨rfl, rfl⟩
    fun _ _ _ hb => hb

theorem mem_applyNTomb_nodes {d : Defects} {r : Replica} {t : NTomb} {n : Node} :
    n ∈ (applyNTomb d r t).nodes ↔
      n ∈ r.nodes ∧ ¬ (n.id = t.id ∧ (d.syncDeletionRoomScoped = false ∨ n.room = t.room)) := by
  simp only [applyNTomb, List.mem_filter, Bool.not_eq_true', ← Bool.not_eq_true, Bool.and_eq_true, Bool.or_eq_true,
    decide_eq_true_eq]

theorem ingestNode_ntombs (d : Defects) (rights : Rights) (r : Replica) (n : Node) (old : Option Node) :
    (ingestNode d rights r n old).ntombs = r.ntombs := by
  unfold ingestNode
  split <;> rfl

theorem mem_ingestNode_nodes {d : Defects} {rights : Rights} {r : Replica} {n x : Node} {old : Option Node}
    (h : x ∈ (ingestNode d rights r n old).nodes) : x = n ∨ x ∈ r.nodes := by
  unfold ingestNode at h
  split at h
  · exact mem_putNode h
  · exact Or.inr h

/-- what `wanted` has checked of a row it requests: the puller holds no deletion record of it that the lookup sees -/
def Fetchable (d : Defects) (tombs : List NTomb) (n : Node) : Prop :=
  d.ingestIgnoresTombstones = false →
    ∀ t ∈ tombs, n.id = t.id → ¬ (d.syncDeletionRoomScoped = false ∨ n.room = t.room)

theorem wanted_fetchable {d : Defects} {dst : Replica} {n : Node} {o : Option Node}
    (h : wanted d dst n = some o) : Fetchable d dst.ntombs n := by
  intro hI t ht e hsee
  -- such a record `t` makes both lookups succeed, and the row is not requested
  unfold wanted at h
  rw [if_pos] at h
  · cases h
  · simp only [hI, Bool.not_false, Bool.true_and, Bool.and_eq_true, List.any_eq_true]
    refine ⟨⟨t, ht, decide_eq_true e.symm⟩, t, ht, ?_⟩
    rcases hsee with hs | hr
    · simp [e, hs]
    · simp [e, hr]

theorem syncDay_induct (d : Defects) (rights : Rights) (src : Replica) (P : Replica → Prop)
    (hframe : ∀ {r r' : Replica}, r'.nodes = r.nodes → r'.ntombs = r.ntombs → P r → P r')
    (htomb : ∀ r t, t ∈ src.ntombs → P r → P (applyNTomb d r t))
    (hnode : ∀ r n o, n ∈ src.nodes → Fetchable d r.ntombs n → P r → P (ingestNode d rights r n o))
    {dst : Replica} (h : P dst) (room ent day : Nat) : P (syncDay d rights dst src room ent day).dst := by
  have s1 : ∀ (ets : List ETomb) (r : Replica), P r → P (if ets.isEmpty then r else applyETombs rights r ets) := by
    intro ets r hr
    split
    · exact hr
    · exact hframe (applyETombs_same rights r ets).1 (applyETombs_same rights r ets).2 hr
  have s2 : ∀ (lt : NTomb → NTomb → Bool) (p : NTomb → Bool) (r : Replica), P r →
      P (if (sortBy lt (src.ntombs.filter p)).isEmpty then r
        else applyNTombs d rights r (sortBy lt (src.ntombs.filter p))) := by
    intro lt p r hr
    split
    · exact hr
    · exact applyNTombs_induct d rights _ P r hr fun r' t ht =>
        htomb r' t (List.mem_filter.mp ((mem_sortBy _ t _).mp ht)).1
  -- rows are written one after the other; the deletion records stay those the requests were checked on
  have s3 : ∀ (p : Node → Bool) (r : Replica), P r →
      P (((src.nodes.filter p).filterMap fun n => (wanted d r n).map fun o => (n, o)).foldl
        (fun r (x : Node × Option Node) => ingestNode d rights r x.1 x.2) r) := by
    intro p r0 hr0
    refine (foldl_invariant (fun r : Replica => P r ∧ r.ntombs = r0.ntombs) ⟨hr0, rfl⟩ ?_).1
    intro r _ hx ⟨hr, ht⟩
    obtain ⟨n, hn, e⟩ := List.mem_filterMap.mp hx
    obtain ⟨o, hw, e⟩ := Option.map_eq_some_iff.mp e
    subst e
    exact ⟨hnode r n o (List.mem_filter.mp hn).1 (ht ▸ wanted_fetchable hw) hr,
      (ingestNode_ntombs d rights r n o).trans ht⟩
  have s4 : ∀ (es : List Edge) (r : Replica), P r →
      P (es.foldl (fun r e => { r with edges := putEdge e r.edges }) r) :=
    fun es r hr => foldl_invariant P hr fun r _ _ hr => hframe (r := r) rfl rfl hr
  unfold syncDay
  exact ite_both DayResult.dst (s2 _ _ _ (s1 _ _ h)) (s4 _ _ (s3 _ _ (s2 _ _ _ (s1 _ _ h))))

theorem pull_induct (d : Defects) (rights : Rights) (src : Replica) (room : Nat) (P : Replica → Prop)
    (hframe : ∀ {r r' : Replica}, r'.nodes = r.nodes → r'.ntombs = r.ntombs → P r → P r')
    (hday : ∀ r ent day, P r → P (syncDay d rights r src room ent day).dst)
    {dst : Replica} (h : P dst) : P (pull d rights dst src room).dst := by
  have days : ∀ (l : List (Nat × Nat)) (r : Replica) (ch : Bool) (f : Nat), P r →
      P (syncDays d rights src room l r ch f).1 := by
    intro l
    induction l with
    | nil => intro r ch f hr; exact hr
    | cons a t ih => intro r ch f hr; exact ih _ _ _ (hday r a.1 a.2 hr)
  have log : ∀ (x : Replica × Bool × Nat), P x.1 →
      P (if x.2.1 then { x.1 with log := recompute d x.1.sigs x.1.log } else x.1) := by
    intro x hx
    split
    · exact hframe (r := x.1) rfl rfl hx
    · exact hx
  unfold pull
  refine log _ (ite_both Prod.fst (days _ dst false 0 h) (ite_both Prod.fst ?_ h))
  cases (roomDef src room).lastDate with
  | none => exact h
  | some m =>
    -- `(r.1, true, r.2.2).1` is reduced first: left to the unifier, `syncDays` is unfolded against the triple
    dsimp only
    exact days _ dst false 0 h

def KeepsRecords (r r' : Replica) : Prop := ∀ t ∈ r.ntombs, ∃ u ∈ r'.ntombs, u.id = t.id ∧ u.room = t.room

theorem KeepsRecords.of_eq {r r' : Replica} (e : r'.ntombs = r.ntombs) : KeepsRecords r r' :=
  fun t ht => ⟨t, e ▸ ht, rfl, rfl⟩

theorem KeepsRecords.trans {a b c : Replica} (h1 : KeepsRecords a b) (h2 : KeepsRecords b c) : KeepsRecords a c := by
  intro t ht
  obtain ⟨u, hu, e1, e2⟩ := h1 t ht
  obtain ⟨v, hv, e3, e4⟩ := h2 u hu
  exact ⟨v, hv, e3.trans e1, e4.trans e2⟩

theorem KeepsRecords.put {a b c : Replica} {t : NTomb} (h : KeepsRecords a b) (e : c.ntombs = putNTomb t b.ntombs) :
    KeepsRecords a c :=
  h.trans fun _ hx => e ▸ putNTomb_keeps t hx

theorem KeepsRecords.deadIds {r r' : Replica} (h : KeepsRecords r r') : ∀ i ∈ r.deadIds, i ∈ r'.deadIds := by
  intro i hi
  obtain ⟨t, ht, e⟩ := List.mem_map.mp hi
  obtain ⟨u, hu, e1, _⟩ := h t ht
  exact List.mem_map.mpr ⟨u, hu, e1.trans e⟩

theorem syncDay_keepsRecords (d : Defects) (rights : Rights) (dst src : Replica) (room ent day : Nat) :
    KeepsRecords dst (syncDay d rights dst src room ent day).dst :=
  syncDay_induct d rights src (KeepsRecords dst) (fun _ e h => h.trans (.of_eq e)) (fun _ _ _ h => h.put rfl)
    (fun r n o _ _ h => h.trans (.of_eq (ingestNode_ntombs d rights r n o))) (.of_eq rfl) room ent day

theorem pull_keepsRecords (d : Defects) (rights : Rights) (dst src : Replica) (room : Nat) :
    KeepsRecords dst (pull d rights dst src room).dst :=
  pull_induct d rights src room (KeepsRecords dst) (fun _ e h => h.trans (.of_eq e))
    (fun r ent day h => h.trans (syncDay_keepsRecords d rights r src room ent day)) (.of_eq rfl)

/-- the versions `n` of rows a local write may store, by id and room; `snapNodes`: the rows the planner sees -/
def WOp.stores (snapNodes : List Node) : WOp → Node → Prop
  | .new row room _ _ _, n => n.id = row ∧ n.room = room
  | .upd row _ _ room, n => n.id = row ∧ ∃ old ∈ snapNodes, old.id = row ∧ n.room = room.getD old.room
  | .ref row _ _, n | .unref row _ _ _, n => n.id = row ∧ ∃ old ∈ snapNodes, old.id = row ∧ n.room = old.room
  | .del _ _, _ => False

/-- a local write leaves the rows and deletion records as they are (`hsame`), stores one version `n` (`hput`: `n`, where it
    is stored, was appended by a creation or written over a stored row of its id), or deletes a row (`hdel`) -/
theorem effectOf_cases (d : Defects) (w : World) (snap cur : Replica) (p : Nat) (op : WOp) (P : Replica → Prop)
    (hsame : P cur)
    (hput : ∀ {n : Node} {r : Replica}, op.stores snap.nodes n → (∀ x ∈ r.nodes, x ∈ cur.nodes ∨ x = n) →
      (n ∈ r.nodes → (∃ y ∈ cur.nodes, y.id = n.id) ∨ ∃ row room ent val sig, op = .new row room ent val sig) →
      r.ntombs = cur.ntombs → P r)
    (hdel : ∀ {old : Node} {t : NTomb} {r : Replica}, old ∈ snap.nodes → t.id = old.id → t.room = old.room →
      (∀ x ∈ r.nodes, x ∈ cur.nodes ∧ x.id ≠ t.id) → r.ntombs = putNTomb t cur.ntombs → P r) :
    P (effectOf d w snap cur p op).cur := by
  have over : ∀ {n : Node} {r : Replica}, r.nodes = replaceNode n cur.nodes → r.ntombs = cur.ntombs →
      op.stores snap.nodes n → P r := by
    intro n r en et hs
    refine hput hs (fun x hx => (mem_replaceNode (en ▸ hx)).imp_right And.left) (fun hn => Or.inl ?_) et
    exact (mem_replaceNode (en ▸ hn)).elim (fun hc => ⟨n, hc, rfl⟩) And.right
  cases op with
  | new row room ent val sig =>
    exact hput (n := ⟨row, room, ent, w.now, w.now, p, val, sig⟩) ⟨rfl, rfl⟩
      (fun x hx => (List.mem_append.mp hx).imp_right List.mem_singleton.mp) (fun _ => Or.inr ⟨_, _, _, _, _, rfl⟩) rfl
  | upd row val sig room =>
    simp only [effectOf]
    unfold opUpd
    cases hf : snap.findNode row ((w.entOf row).getD 0) with
    | none => exact hsame
    | some old =>
      obtain ⟨ho, hid, _⟩ := findNode_some hf
      exact ite_both Effect.cur hsame (over rfl rfl ⟨hid, old, ho, hid, rfl⟩)
  | ref row to sig =>
    simp only [effectOf]
    unfold opRef
    cases hf : snap.findNode row 0 with
    | none => exact hsame
    | some old =>
      obtain ⟨ho, hid, _⟩ := findNode_some hf
      cases snap.findNode to 0 with
      | none => exact hsame
      | some tgt =>
        exact ite_both Effect.cur hsame (ite_both Effect.cur hsame (over rfl rfl ⟨hid, old, ho, hid, rfl⟩))
  | unref row to sig dsig =>
    simp only [effectOf]
    unfold opUnref
    cases hf : snap.findNode row 0 with
    | none => exact hsame
    | some old =>
      obtain ⟨ho, hid, _⟩ := findNode_some hf
      cases snap.edges.find? (fun e => e.src = row && e.dest = to) with
      | none => exact ite_both Effect.cur (over rfl rfl ⟨hid, old, ho, hid, rfl⟩) hsame
      | some e => exact ite_both Effect.cur hsame (over rfl rfl ⟨hid, old, ho, hid, rfl⟩)
  | del row dsig =>
    simp only [effectOf]
    unfold opDel
    cases hf : snap.findNode row ((w.entOf row).getD 0) with
    | none => exact hsame
    | some old =>
      obtain ⟨ho, hid, _⟩ := findNode_some hf
      refine ite_both Effect.cur hsame (hdel ho hid.symm rfl (fun x hx => ?_) rfl)
      exact ⟨(List.mem_filter.mp hx).1, of_decide_eq_true (List.mem_filter.mp hx).2⟩

theorem effectOf_keepsRecords (d : Defects) (w : World) (snap cur : Replica) (p : Nat) (op : WOp) :
    KeepsRecords cur (effectOf d w snap cur p op).cur :=
  effectOf_cases d w snap cur p op (KeepsRecords cur) (.of_eq rfl) (fun _ _ _ e => .of_eq e)
    fun _ _ _ _ e => (KeepsRecords.of_eq rfl).put e

/-- `P` holds of every replica and of the committed state behind an open batch (what `World.visible` shows) -/
def WAll (P : Replica → Prop) (w : World) : Prop := (∀ r ∈ w.peers, P r) ∧ ∀ b, w.batch = some b → P b.snap

/-- the rows the planner of a write of peer `p` sees: the committed state behind an open batch of `p` -/
def World.snapOf (w : World) (p : Nat) : Replica :=
  match w.batch with
  | some b => if b.peer = p then b.snap else w.peer p
  | none => w.peer p

theorem snapOf_of_batch_none {w : World} (hb : w.batch = none) (p : Nat) : w.snapOf p = w.peer p := by
  unfold World.snapOf; rw [hb]

theorem snapOf_of_batch {w : World} {b : Batch} (hb : w.batch = some b) (p : Nat) :
    w.snapOf p = if b.peer = p then b.snap else w.peer p := by
  unfold World.snapOf; rw [hb]

/-- `G`: the guard of a local write, a condition on the rows the planner sees and the deletion records the writer
    holds -/
structure Kept (d : Defects) (P : Replica → Prop) (G : List Node → List NTomb → WOp → Prop) : Prop where
  frame : ∀ {r r' : Replica}, r'.nodes = r.nodes → r'.ntombs = r.ntombs → P r → P r'
  empty : P Replica.empty
  pull : ∀ (rights : Rights) {dst src : Replica} (room : Nat), P dst → P src → P (pull d rights dst src room).dst
  effect : ∀ (w : World) {snap cur : Replica} (p : Nat) (op : WOp), P snap → P cur → G snap.nodes cur.ntombs op →
    P (effectOf d w snap cur p op).cur

theorem Kept.log {d : Defects} {P : Replica → Prop} {G : List Node → List NTomb → WOp → Prop} (hk : Kept d P G)
    {r : Replica} (h : P r) (l : Log) : P { r with log := l } :=
  hk.frame (r := r) rfl rfl h

/-- what a step (or a run) from `w` to `w'` keeps: `P` everywhere in `w'`, and every deletion record of every peer -/
structure StepOn (P : Replica → Prop) (w w' : World) : Prop where
  inv : WAll P w'
  records : ∀ q, KeepsRecords (w.peer q) (w'.peer q)

theorem peer_setPeer (w : World) (p q : Nat) (r : Replica) :
    (w.setPeer p r).peer q = if q = p ∧ p < w.peers.length then r else w.peer q := by
  unfold World.setPeer World.peer
  by_cases h : q = p
  · subst h
    by_cases hl : q < w.peers.length
    · simp [hl, List.getD_eq_getElem?_getD]
    · simp [hl, List.getD_eq_getElem?_getD]
  · have h' : ¬ p = q := fun e => h e.symm
    simp [h, List.getD_eq_getElem?_getD, List.getElem?_set_ne h']

theorem commit_peer (w : World) (q : Nat) :
    (w.commit.1.peer q).nodes = (w.peer q).nodes ∧ (w.commit.1.peer q).ntombs = (w.peer q).ntombs := by
  unfold World.commit
  split
  · exact ⟨rfl, rfl⟩
  · rename_i b hb
    show ((w.setPeer b.peer _).peer q).nodes = _ ∧ ((w.setPeer b.peer _).peer q).ntombs = _
    rw [peer_setPeer]
    split
    · rename_i hc; rw [hc.1]; exact ⟨rfl, rfl⟩
    · exact ⟨rfl, rfl⟩

section
variable {P : Replica → Prop}

theorem WAll.init (h0 : P Replica.empty) (rights : Rights) : WAll P (World.initDated rights) := by
  refine ⟨?_, fun b hb => nomatch hb⟩
  intro r hr
  obtain ⟨_, _, e⟩ := List.mem_map.mp hr
  exact e ▸ h0

theorem WAll.peer {w : World} (h : WAll P w) (h0 : P Replica.empty) (p : Nat) : P (w.peer p) := by
  unfold World.peer
  rw [List.getD_eq_getElem?_getD]
  cases hp : w.peers[p]? with
  | none => exact h0
  | some r => exact h.1 r (List.mem_of_getElem? hp)

theorem WAll.setPeer {w : World} (h : WAll P w) (p : Nat) {r : Replica} (hr : P r) : WAll P (w.setPeer p r) := by
  refine ⟨?_, h.2⟩
  intro x hx
  rcases List.mem_or_eq_of_mem_set hx with e | e
  · exact h.1 x e
  · exact e ▸ hr

theorem WAll.and_iff {Q : Replica → Prop} {w : World} : WAll (fun r => P r ∧ Q r) w ↔ WAll P w ∧ WAll Q w :=
  ⟨fun h => ⟨⟨fun r hr => (h.1 r hr).1, fun b hb => (h.2 b hb).1⟩, fun r hr => (h.1 r hr).2, fun b hb => (h.2 b hb).2⟩,
    fun h => ⟨fun r hr => ⟨h.1.1 r hr, h.2.1 r hr⟩, fun b hb => ⟨h.1.2 b hb, h.2.2 b hb⟩⟩⟩

theorem StepOn.refl {w : World} (h : WAll P w) : StepOn P w w := ⟨h, fun _ => .of_eq rfl⟩

theorem StepOn.trans {a b c : World} (h1 : StepOn P a b) (h2 : StepOn P b c) : StepOn P a c :=
  ⟨h2.inv, fun q => (h1.records q).trans (h2.records q)⟩

theorem StepOn.setPeer {w : World} (h : WAll P w) (p : Nat) {r : Replica} (hr : P r)
    (hm : KeepsRecords (w.peer p) r) : StepOn P w (w.setPeer p r) := by
  refine ⟨h.setPeer p hr, ?_⟩
  intro q
  rw [peer_setPeer]
  split
  · rename_i hc; exact hc.1 ▸ hm
  · exact .of_eq rfl

theorem StepOn.batch {w w' w'' : World} (h : StepOn P w w') (ep : w''.peers = w'.peers)
    (hb : ∀ b, w''.batch = some b → P b.snap) : StepOn P w w'' :=
  ⟨⟨ep ▸ h.inv.1, hb⟩, fun q => by unfold World.peer; rw [ep]; exact h.records q⟩

variable {d : Defects} {G : List Node → List NTomb → WOp → Prop} (hk : Kept d P G)
include hk

theorem commit_keeps {w : World} (h : WAll P w) : StepOn P w w.commit.1 := by
  unfold World.commit
  split
  · exact .refl h
  · rename_i b hb
    have s := StepOn.setPeer h b.peer (hk.log (h.peer hk.empty b.peer) (markAll b.marks (w.peer b.peer).log))
      (.of_eq rfl)
    exact s.batch rfl fun _ hb' => nomatch hb'

theorem recomputeAt_keeps {w : World} (h : WAll P w) (p : Nat) : StepOn P w (w.recomputeAt d p) :=
  .setPeer h p (hk.log (h.peer hk.empty p) _) (.of_eq rfl)

/-- a write applied at once, as a batch of its own (`l`: the log with its marks) -/
theorem write_now_keeps {w : World} (h : WAll P w) (p : Nat) (op : WOp)
    (hg : G (w.peer p).nodes (w.peer p).ntombs op) (l : Log) :
    StepOn P w (w.setPeer p { (effectOf d w (w.peer p) (w.peer p) p op).cur with log := l }) :=
  .setPeer h p (hk.log (hk.effect w p op (h.peer hk.empty p) (h.peer hk.empty p) hg) l)
    ((effectOf_keepsRecords d w _ _ p op).trans (.of_eq rfl))

theorem write_keeps {w : World} (h : WAll P w) (p : Nat) (op : WOp)
    (hg : G (w.snapOf p).nodes (w.peer p).ntombs op) : StepOn P w (w.write d p op).1 := by
  -- the harness remembering a created row changes no replica
  have rows : ∀ {w0 w2 : World} (s : StepOn P w0 w2) (o : WOp) (res : Res), StepOn P w0
      (match o, res with
        | .new row _ ent _ _, .ok => { w2 with rows := w2.rows ++ [(row, ent)] }
        | _, _ => w2) := by
    intro w0 w2 s o res
    split
    · exact s.batch rfl s.inv.2
    · exact s
  unfold World.write
  split
  · rename_i b hb
    rw [snapOf_of_batch hb] at hg
    split
    · -- queued in the open batch of `p`: planned on the committed state
      rename_i hp
      rw [if_pos hp] at hg
      have s := StepOn.setPeer h p (hk.effect w p op (h.2 b hb) (h.peer hk.empty p) hg)
        (effectOf_keepsRecords d w b.snap _ p op)
      exact s.batch rfl fun b' hb' => Option.some.inj hb' ▸ h.2 b hb
    · rename_i hp
      rw [if_neg hp, ← (commit_peer w p).1, ← (commit_peer w p).2] at hg
      have hc := commit_keeps hk h
      exact hc.trans (rows (write_now_keeps hk hc.inv p op hg _) op _)
  · rename_i hb
    rw [snapOf_of_batch_none hb] at hg
    exact rows (write_now_keeps hk h p op hg _) op _

theorem compute_keeps {w : World} (h : WAll P w) (p : Nat) : StepOn P w (w.compute d p).1 := by
  unfold World.compute
  split
  · refine (recomputeAt_keeps hk (d := d) h p).batch rfl ?_
    intro b' hb'
    obtain ⟨b0, e0, e1⟩ := Option.map_eq_some_iff.mp hb'
    exact e1 ▸ h.2 b0 e0
  · have hc := commit_keeps hk h
    exact hc.trans (recomputeAt_keeps hk hc.inv p)

theorem pull_keeps {w : World} (h : WAll P w) (dst src room : Nat) : StepOn P w (w.pull d dst src room).1 := by
  have hc := commit_keeps hk h
  exact hc.trans (.setPeer hc.inv dst (hk.pull _ room (hc.inv.peer hk.empty dst) (hc.inv.peer hk.empty src))
    (pull_keepsRecords d _ _ _ room))

theorem round_keeps {w : World} (h : WAll P w) (rooms : List Nat) : StepOn P w (w.round d rooms).1 :=
  foldl_invariant (fun acc : World × Nat => StepOn P w acc.1) (.refl h)
    fun _ x _ hacc => hacc.trans (pull_keeps hk hacc.inv x.1.1 x.1.2 x.2)

theorem settleLoop_keeps (rooms : List Nat) (fuel : Nat) :
    ∀ (w : World) (n f : Nat), WAll P w → StepOn P w (World.settleLoop d rooms fuel w n f).1 := by
  induction fuel with
  | zero => intro w n f h; exact .refl h
  | succ k ih =>
    intro w n f h
    simp only [World.settleLoop]
    have hr := round_keeps hk (d := d) h rooms
    split
    · exact hr
    · exact hr.trans (ih _ _ _ hr.inv)

theorem settle_keeps {w : World} (h : WAll P w) (room max : Nat) : StepOn P w (World.settle d room max w).1 := by
  have h0 : StepOn P w ((List.range w.peers.length).foldl (fun acc p => acc.recomputeAt d p) w.commit.1) :=
    foldl_invariant (fun acc : World => StepOn P w acc) (commit_keeps hk h)
      fun acc p _ hacc => hacc.trans (recomputeAt_keeps hk hacc.inv p)
  exact h0.trans (settleLoop_keeps hk _ max _ 0 0 h0.inv)

theorem exec_keeps {w : World} (h : WAll P w) (op : Op)
    (hg : ∀ p wop, op = .write p wop → G (w.snapOf p).nodes (w.peer p).ntombs wop) : StepOn P w (w.exec d op) := by
  cases op with
  | clock t => exact (StepOn.refl h).batch rfl h.2
  | write p wop => exact write_keeps hk h p wop (hg p wop rfl)
  | compute p => exact compute_keeps hk h p
  | pull dst src room => exact pull_keeps hk h dst src room
  | «begin» p =>
    have hc := commit_keeps hk h
    exact hc.batch rfl fun b hb => Option.some.inj hb ▸ hc.inv.peer hk.empty p
  | commit p =>
    simp only [World.exec]
    split
    · split
      · exact commit_keeps hk h
      · exact .refl h
    · exact .refl h
  | settle room max => exact settle_keeps hk h room max

/-- `R`: any way of saying that the writes of an op sequence pass the guard along the run -/
theorem run_keeps (R : World → List Op → Prop)
    (hR : ∀ w op t, R w (op :: t) →
      (∀ p wop, op = .write p wop → G (w.snapOf p).nodes (w.peer p).ntombs wop) ∧ R (w.exec d op) t)
    (ops : List Op) : ∀ (w : World), WAll P w → R w ops → StepOn P w (World.run d w ops) := by
  induction ops with
  | nil => intro w h _; exact .refl h
  | cons op t ih =>
    intro w h hr
    have s := exec_keeps hk h op (hR w op t hr).1
    exact s.trans (ih _ s.inv (hR w op t hr).2)

end

theorem run_guard_append {d : Defects} {g : World → Op → Prop} {R : World → List Op → Prop} (hnil : ∀ w, R w [])
    (hcons : ∀ w op t, R w (op :: t) ↔ g w op ∧ R (w.exec d op) t) (ops1 ops2 : List Op) :
    ∀ w, R w (ops1 ++ ops2) → R w ops1 ∧ R (World.run d w ops1) ops2 := by
  induction ops1 with
  | nil => intro w h; exact ⟨hnil w, h⟩
  | cons op t ih =>
    intro w h
    obtain ⟨a, b⟩ := (hcons w op _).mp h
    obtain ⟨c, e⟩ := ih _ b
    exact ⟨(hcons w op t).mpr ⟨a, c⟩, e⟩

/-- every stored version of a row that carries a deletion record is `Q`-apart from the record: there is none
    (`NoZombie`, `Q` false) or it lies in another room (`NoZombieR`) -/
def Apart (Q : NTomb → Node → Prop) (r : Replica) : Prop := ∀ t ∈ r.ntombs, ∀ n ∈ r.nodes, n.id = t.id → Q t n

/-- `n.id ≠ t.id` is `n.id = t.id → False`: the lemmas about `Apart` apply to `NoZombie` as they stand -/
theorem noZombie_eq_apart : NoZombie = Apart fun _ _ => False := rfl

section
variable {Q : NTomb → Node → Prop}

theorem Apart.store {cur r : Replica} (h : Apart Q cur)
    (hn : ∀ x ∈ r.nodes, x ∈ cur.nodes ∨ ∀ t ∈ cur.ntombs, x.id = t.id → Q t x) (ht : r.ntombs = cur.ntombs) :
    Apart Q r := by
  intro t ht' x hx
  rw [ht] at ht'
  exact (hn x hx).elim (h t ht' x) fun hc => hc t ht'

theorem Apart.delete {cur r : Replica} {t : NTomb} (h : Apart Q cur)
    (hn : ∀ x ∈ r.nodes, x ∈ cur.nodes ∧ (x.id = t.id → Q t x)) (ht : r.ntombs = putNTomb t cur.ntombs) :
    Apart Q r := by
  intro u hu x hx
  rcases mem_putNTomb (ht ▸ hu) with e | hu
  · exact e ▸ (hn x hx).2
  · exact h u hu x (hn x hx).1

theorem Apart.frame {r r' : Replica} (en : r'.nodes = r.nodes) (et : r'.ntombs = r.ntombs) (h : Apart Q r) :
    Apart Q r' :=
  h.store (fun _ hx => Or.inl (en ▸ hx)) et

theorem Apart.empty : Apart Q Replica.empty := fun _ ht => nomatch ht

variable {d : Defects} (hI : d.ingestIgnoresTombstones = false)
  (hQ : ∀ t n, ¬ (d.syncDeletionRoomScoped = false ∨ n.room = t.room) → Q t n)
include hI hQ

/-- a pull keeps the rows apart whenever `Q` holds of every row a synchronised deletion leaves and of every record
    the lookup of a request does not see -/
theorem syncDay_apart (rights : Rights) {dst : Replica} (src : Replica) (h : Apart Q dst) (room ent day : Nat) :
    Apart Q (syncDay d rights dst src room ent day).dst := by
  refine syncDay_induct d rights src (Apart Q) Apart.frame ?_ ?_ h room ent day
  · -- the new record has just removed the versions of its row that it sees
    intro r t _ hz
    refine hz.delete (t := t) (fun x hx => ?_) rfl
    obtain ⟨hx, hne⟩ := mem_applyNTomb_nodes.mp hx
    exact ⟨hx, fun e => hQ t x fun hs => hne ⟨e, hs⟩⟩
  · -- a requested row carries no record that the lookup sees
    intro r n o _ hf hz
    refine hz.store (fun x hx => ?_) (ingestNode_ntombs d rights r n o)
    rcases mem_ingestNode_nodes hx with e | hx
    · exact Or.inr (e ▸ fun t ht et => hQ t n (hf hI t ht et))
    · exact Or.inl hx

theorem pull_apart (rights : Rights) {dst : Replica} (src : Replica) (h : Apart Q dst) (room : Nat) :
    Apart Q (pull d rights dst src room).dst :=
  pull_induct d rights src room (Apart Q) Apart.frame
    (fun _ ent day h => syncDay_apart hI hQ rights src h room ent day) h

end

def WOp.freshFor (tombs : List NTomb) (op : WOp) : Prop :=
  ∀ row room ent val sig, op = .new row room ent val sig → ∀ t ∈ tombs, t.id ≠ row

/-- only a creation needs the guard: every other write stores a version of a row that is stored already, or removes
    the row with the record it adds -/
theorem effectOf_noZombie (d : Defects) (w : World) (snap : Replica) {cur : Replica} (h : NoZombie cur) (p : Nat)
    (op : WOp) (hf : op.freshFor cur.ntombs) : NoZombie (effectOf d w snap cur p op).cur := by
  refine effectOf_cases d w snap cur p op NoZombie h ?_ fun _ _ _ hn et => Apart.delete h hn et
  intro n r hs hn hslot et
  refine Apart.store h (fun x hx => ?_) et
  rcases hn x hx with hx | rfl
  · exact Or.inl hx
  · rcases hslot hx with ⟨y, hy, e⟩ | ⟨row, room, ent, val, sig, rfl⟩
    · exact Or.inr fun t ht et => h t ht y hy (e.trans et)
    · exact Or.inr fun t ht et => hf row room ent val sig rfl t ht (et.symm.trans hs.1)

/-- no replica of the world, and no committed state behind an open batch, stores a row whose id carries a deletion record -/
def WZ (w : World) : Prop := WAll NoZombie w

/-- a creation uses an id of which the WRITER holds no deletion record (other peers may hold one) -/
def Op.fresh (w : World) : Op → Prop
  | .write p (.new row _ _ _ _) => row ∉ (w.peer p).deadIds
  | _ => True

def runFresh (d : Defects) : World → List Op → Prop
  | _, [] => True
  | w, op :: t => op.fresh w ∧ runFresh d (w.exec d op) t

theorem Op.fresh.guard {w : World} {op : Op} (hf : op.fresh w) (p : Nat) (wop : WOp) (e : op = .write p wop) :
    wop.freshFor (w.peer p).ntombs := by
  intro row room ent val sig e' t ht et
  subst e e'
  exact hf (List.mem_map.mpr ⟨t, ht, et⟩)

theorem WZ.peer {w : World} (h : WZ w) (p : Nat) : NoZombie (w.peer p) := WAll.peer h Apart.empty p

theorem init_WZ (rights : Rights) : WZ (World.initDated rights) := .init Apart.empty rights

section
variable {d : Defects} (hI : d.ingestIgnoresTombstones = false) (hR : d.syncDeletionRoomScoped = false)
include hI hR

theorem syncDay_noZombie (rights : Rights) {dst : Replica} (src : Replica) (h : NoZombie dst) (room ent day : Nat) :
    NoZombie (syncDay d rights dst src room ent day).dst ∧
      ∀ i ∈ dst.deadIds, i ∈ (syncDay d rights dst src room ent day).dst.deadIds :=
  ⟨syncDay_apart hI (fun _ _ hn => hn (Or.inl hR)) rights src h room ent day,
    (syncDay_keepsRecords d rights dst src room ent day).deadIds⟩

theorem noZombie_kept : Kept d NoZombie fun _ tombs op => op.freshFor tombs where
  frame := Apart.frame
  empty := Apart.empty
  pull rights _ src room h _ := pull_apart hI (fun _ _ hn => hn (Or.inl hR)) rights src h room
  effect w snap _ p op _ h hg := effectOf_noZombie d w snap h p op hg

theorem run_noZombie (ops : List Op) (w : World) (h : WZ w) (hf : runFresh d w ops) :
    StepOn NoZombie w (World.run d w ops) :=
  run_keeps (noZombie_kept hI hR) (runFresh d) (fun _ _ _ h => ⟨h.1.guard, h.2⟩) ops w h hf

end

theorem runFresh_append (d : Defects) (ops1 ops2 : List Op) :
    ∀ w, runFresh d w (ops1 ++ ops2) → runFresh d w ops1 ∧ runFresh d (World.run d w ops1) ops2 :=
  run_guard_append (fun _ => trivial) (fun _ _ _ => Iff.rfl) ops1 ops2

end Discret.Sync
