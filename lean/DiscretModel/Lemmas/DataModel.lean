import DiscretModel.Model.DataModel
import DiscretModel.Lemmas.Basic
/-
Two kinds of facts. Whatever the defects and whether or not a version is accepted, a model only grows: every
namespace, entity and field stays, with its id and type (`Ext`). For the code as it is (text-order numbering,
atomic refusals) an accepted version is a merge by name (`mergeBy`) of the parsed text into the model at each
of the three levels; since the parser numbers by position (`PosFrom`, `Keyed`) and an accepted text matches every
old member at its position, the merge keeps the model well formed (`WF`) and leaves it agreeing with the text member
by member (`Settled`, `applyV_settled`): it carries the ids of the text (`SameUserIds`) and the same text again changes
nothing. The merge does not depend on the visit order.
On these rest: what a stored row reads and whether it conforms after later versions (`read_preserved`, `read_new_field`,
`runSteps_conforms`), a restart on the stored model (`loadAndUpdate_restart`), the code with hash-order numbering when at most
one field is new per entity (`applyV_single`), and the reverse table `entities_short` (`apply_revOk`).
-/
namespace Discret.DM

theorem mem_prio {α : Type} (pri : List Key) (key : α → Key) (l : List α) (x : α) :
    x ∈ prio pri key l ↔ x ∈ l := by
  induction pri generalizing l with
  | nil => simp [prio]
  | cons k ks ih =>
    simp only [prio, List.mem_append, List.mem_filter, ih]
    constructor
    · rintro (⟨hx, _⟩ | ⟨hx, _⟩) <;> exact hx
    · intro hx
      by_cases h : key x = k
      · exact Or.inl ⟨hx, by simp [h]⟩
      · exact Or.inr ⟨hx, by simp [h]⟩

theorem prio_of_length_le_one {α : Type} (pri : List Key) (key : α → Key) (l : List α) (h : l.length ≤ 1) :
    prio pri key l = l := by
  induction pri generalizing l with
  | nil => rfl
  | cons k ks ih =>
    match l, h with
    | [], _ => simp [prio, ih]
    | [x], _ =>
      simp only [prio, List.filter_cons, List.filter_nil]
      by_cases hk : key x = k
      · simp [hk, ih]
      · simp [hk, ih]

theorem firstErr_none {α : Type} (chk : α → Option Err) (l : List α) :
    firstErr chk l = none ↔ ∀ x ∈ l, chk x = none := by
  induction l with
  | nil => simp [firstErr]
  | cons x xs ih =>
    simp only [firstErr, List.mem_cons, forall_eq_or_imp]
    cases h : chk x with
    | none => simp [ih]
    | some e => simp

theorem okPrefix_of_firstErr_none {α : Type} (chk : α → Option Err) (l : List α)
    (h : firstErr chk l = none) : okPrefix chk l = l := by
  induction l with
  | nil => rfl
  | cons x xs ih =>
    simp only [firstErr] at h
    cases hx : chk x with
    | none => simp only [hx] at h; simp [okPrefix, hx, ih h]
    | some e => simp [hx] at h

theorem okPrefix_sub {α : Type} (chk : α → Option Err) (l : List α) : ∀ x ∈ okPrefix chk l, x ∈ l := by
  induction l with
  | nil => simp [okPrefix]
  | cons y ys ih =>
    intro x hx
    simp only [okPrefix] at hx
    cases hy : chk y with
    | none =>
      simp only [hy, List.mem_cons] at hx
      rcases hx with rfl | hx
      · simp
      · exact List.mem_cons_of_mem _ (ih x hx)
    | some e => simp [hy] at hx

theorem firstBad_none_of_firstErr_none {α : Type} (chk : α → Option Err) (l : List α)
    (h : firstErr chk l = none) : firstBad chk l = none := by
  induction l with
  | nil => rfl
  | cons x xs ih =>
    simp only [firstErr] at h
    cases hx : chk x with
    | none => simp only [hx] at h; simp [firstBad, hx, ih h]
    | some e => simp [hx] at h

theorem ite_some_eq_none {α : Type} {c : Prop} [Decidable c] {e : α} {x : Option α} :
    (if c then some e else x) = none ↔ ¬ c ∧ x = none := by
  split <;> simp [*]

theorem eq_of_not_bne {α : Type} [BEq α] [LawfulBEq α] {a b : α} (h : ¬ (a != b) = true) : a = b :=
  bne_eq_false_iff_eq.mp ((Bool.not_eq_true _).mp h)

theorem mergeField_name (f : Field) (nfs : List Field) : (mergeField f nfs).name = f.name := by
  unfold mergeField; split <;> rfl
theorem mergeField_short (f : Field) (nfs : List Field) : (mergeField f nfs).short = f.short := by
  unfold mergeField; split <;> rfl
theorem mergeField_ty (f : Field) (nfs : List Field) : (mergeField f nfs).ty = f.ty := by
  unfold mergeField; split <;> rfl

/-- the shape of the `Ext` relations -/
def Found {α α' : Type} (R : α → α' → Prop) (o : Option α) (o' : Option α') : Prop :=
  ∀ y, o = some y → ∃ y', o' = some y' ∧ R y y'

theorem Found.refl {α : Type} {R : α → α → Prop} (hR : ∀ a, R a a) (o : Option α) : Found R o o :=
  fun y h => ⟨y, h, hR y⟩

theorem Found.trans {α β γ : Type} {R : α → β → Prop} {S : β → γ → Prop} {T : α → γ → Prop}
    {o : Option α} {o' : Option β} {o'' : Option γ} (h1 : Found R o o') (h2 : Found S o' o'')
    (hT : ∀ a b c, R a b → S b c → T a c) : Found T o o'' := fun y hy =>
  have ⟨y', hy', r⟩ := h1 y hy
  have ⟨y'', hy'', s⟩ := h2 y' hy'
  ⟨y'', hy'', hT _ _ _ r s⟩

theorem Found.find?_map_append {α : Type} {R : α → α → Prop} {p : α → Bool} {g : α → α} (hp : ∀ x, p (g x) = p x)
    (hR : ∀ x, R x (g x)) (l ex : List α) : Found R (l.find? p) ((l.map g ++ ex).find? p) := fun x h =>
  ⟨g x, by rw [List.find?_append, List.find?_map, show p ∘ g = p from funext hp, h]; rfl, hR x⟩

theorem Found.bind {α α' β β' : Type} {R : α → α' → Prop} {S : β → β' → Prop} {o : Option α} {o' : Option α'}
    {f : α → Option β} {f' : α' → Option β'} (h : Found R o o') (hf : ∀ y y', R y y' → Found S (f y) (f' y')) :
    Found S (o.bind f) (o'.bind f') := fun z hz => by
  cases o with
  | none => cases hz
  | some y => obtain ⟨y', hy', hr⟩ := h y rfl; rw [hy']; exact hf y y' hr z hz

theorem Found.map {α α' γ : Type} {R : α → α' → Prop} {o : Option α} {o' : Option α'} {g : α → γ} {g' : α' → γ}
    (h : Found R o o') (hg : ∀ y y', R y y' → g' y' = g y) {i : γ} (hi : o.map g = some i) : o'.map g' = some i := by
  cases o with
  | none => cases hi
  | some y => obtain ⟨y', hy', hr⟩ := h y rfl; rw [hy']; exact (congrArg some (hg y y' hr)).trans hi

def Entity.Ext (x x' : Entity) : Prop :=
  x'.name = x.name ∧ x'.k = x.k ∧
    ∀ f y, x.findField f = some y → ∃ y', x'.findField f = some y' ∧ y'.short = y.short ∧ y'.ty = y.ty

def Ns.Ext (x x' : Ns) : Prop :=
  x'.name = x.name ∧ x'.id = x.id ∧ ∀ e y, x.findEnt e = some y → ∃ y', x'.findEnt e = some y' ∧ Entity.Ext y y'

def Model.Ext (m m' : Model) : Prop :=
  ∀ n y, m.findNs n = some y → ∃ y', m'.findNs n = some y' ∧ Ns.Ext y y'

theorem Entity.Ext.refl (x : Entity) : Entity.Ext x x := ⟨rfl, rfl, fun _ => Found.refl (fun _ => ⟨rfl, rfl⟩) _⟩
theorem Ns.Ext.refl (x : Ns) : Ns.Ext x x := ⟨rfl, rfl, fun _ => Found.refl Entity.Ext.refl _⟩
theorem Model.Ext.refl (m : Model) : Model.Ext m m := fun _ => Found.refl Ns.Ext.refl _

theorem Entity.Ext.trans {a b c : Entity} (h1 : Entity.Ext a b) (h2 : Entity.Ext b c) : Entity.Ext a c :=
  ⟨h2.1.trans h1.1, h2.2.1.trans h1.2.1,
    fun f => Found.trans (h1.2.2 f) (h2.2.2 f) fun _ _ _ r s => ⟨s.1.trans r.1, s.2.trans r.2⟩⟩

theorem Ns.Ext.trans {a b c : Ns} (h1 : Ns.Ext a b) (h2 : Ns.Ext b c) : Ns.Ext a c :=
  ⟨h2.1.trans h1.1, h2.2.1.trans h1.2.1, fun e => Found.trans (h1.2.2 e) (h2.2.2 e) fun _ _ _ => Entity.Ext.trans⟩

theorem Model.Ext.trans {a b c : Model} (h1 : Model.Ext a b) (h2 : Model.Ext b c) : Model.Ext a c :=
  fun n => Found.trans (h1 n) (h2 n) fun _ _ _ => Ns.Ext.trans

theorem ite_rel {α : Type} {R : α → α → Prop} (hr : ∀ a, R a a) {c : Prop} [Decidable c] {a a' : α} (h : R a a') :
    R a (if c then a' else a) := by
  split
  · exact h
  · exact hr a

theorem Entity.Ext.of_map {x x' : Entity} (g : Field → Field) (ex : List Field) (hn : x'.name = x.name) (hk : x'.k = x.k)
    (hf : x'.fields = x.fields.map g ++ ex) (hg : ∀ f, (g f).name = f.name ∧ (g f).short = f.short ∧ (g f).ty = f.ty) :
    Entity.Ext x x' :=
  ⟨hn, hk, fun f => by
    unfold Entity.findField
    rw [hf]
    exact Found.find?_map_append (fun z => by rw [(hg z).1]) (fun z => (hg z).2) _ _⟩

theorem Ns.Ext.of_map {x x' : Ns} (g : Entity → Entity) (ex : List Entity) (hn : x'.name = x.name) (hi : x'.id = x.id)
    (he : x'.ents = x.ents.map g ++ ex) (hg : ∀ e, Entity.Ext e (g e)) : Ns.Ext x x' :=
  ⟨hn, hi, fun e => by
    unfold Ns.findEnt
    rw [he]
    exact Found.find?_map_append (fun z => by rw [(hg z).1]) hg _ _⟩

theorem Model.Ext.of_map {m m' : Model} (g : Ns → Ns) (ex : List Ns) (hn : m'.nss = m.nss.map g ++ ex)
    (hg : ∀ n, Ns.Ext n (g n)) : Model.Ext m m' := fun n => by
  unfold Model.findNs
  rw [hn]
  exact Found.find?_map_append (fun z => by rw [(hg z).1]) hg _ _

theorem Entity.update_ext (d : Defects) (pri : List Key) (nsn : String) (old new : Entity) :
    Entity.Ext old (old.update d pri nsn new).1 := by
  have hg (c : Field → Prop) [DecidablePred c] (f : Field) := ite_rel (c := c f)
    (R := fun f f' : Field => f'.name = f.name ∧ f'.short = f.short ∧ f'.ty = f.ty) (fun _ => ⟨rfl, rfl, rfl⟩)
    ⟨mergeField_name f new.fields, mergeField_short .., mergeField_ty ..⟩
  unfold Entity.update
  dsimp only
  split
  · exact .of_map _ [] rfl rfl (List.append_nil _).symm (hg _)
  · split
    · exact .of_map _ _ rfl rfl rfl (hg _)
    · exact .of_map _ _ rfl rfl rfl (hg _)

theorem entStep_ext (d : Defects) (pri : List Key) (nn : Ns) (e : Entity) :
    Entity.Ext e (entStep d pri nn e).1 := by
  unfold entStep
  split
  · exact Entity.Ext.refl e
  · split
    · exact Entity.Ext.refl e
    · exact Entity.update_ext _ _ _ _ _

theorem nsStep_ext (d : Defects) (pri : List Key) (system : Bool) (nv : Model) (old : Ns) :
    Ns.Ext old (nsStep d pri system nv old).1 := by
  unfold nsStep
  cases nv.nss.find? (·.name == old.name) with
  | none => exact Ns.Ext.refl old
  | some nn =>
    dsimp only
    by_cases hid : (nn.id != old.id) = true
    · rw [if_pos hid]; exact Ns.Ext.refl old
    · rw [if_neg hid]
      split
      · exact .of_map _ [] rfl rfl (List.append_nil _).symm fun e => ite_rel Entity.Ext.refl (entStep_ext ..)
      · exact .of_map _ _ rfl rfl rfl fun e => ite_rel Entity.Ext.refl (entStep_ext ..)

/-- the guard at the head of `update_with`: a system version names a namespace other than `sys`, or a user version
    names `sys` -/
def nsGuard (system : Bool) (nv : Model) : Bool :=
  nv.nss.any (fun n => if system then n.name != sysNs else n.name == sysNs)

theorem updateWith_of_guard {d : Defects} {pri : List Key} {system : Bool} {m nv : Model} (hg : nsGuard system nv = true) :
    updateWith d pri system m nv = (m, some .namespaceUpdate) := by
  unfold nsGuard at hg
  unfold updateWith
  rw [if_pos hg]

theorem updateWith_ext (d : Defects) (pri : List Key) (system : Bool) (m nv : Model) :
    Model.Ext m (updateWith d pri system m nv).1 := by
  cases hg : nsGuard system nv
  · unfold nsGuard at hg
    unfold updateWith
    simp only [hg, Bool.false_eq_true, if_false]
    split
    · split
      · exact .of_map _ [] (List.append_nil _).symm fun n => ite_rel Ns.Ext.refl (nsStep_ext ..)
      · exact Model.Ext.refl m
    · exact .of_map _ _ rfl fun n => ite_rel Ns.Ext.refl (nsStep_ext ..)
  · rw [updateWith_of_guard hg]; exact Model.Ext.refl m

theorem update_eq_applyV (d : Defects) (pri : List Key) (m : Model) (v : Version) :
    update d pri m v = applyV d pri false m v := by
  unfold update applyV; rfl

theorem updateSystem_eq_applyV (d : Defects) (pri : List Key) (m : Model) (v : Version) :
    updateSystem d pri m v = applyV d pri true m v := by
  unfold updateSystem applyV; rfl

theorem applyV_ext (d : Defects) (pri : List Key) (system : Bool) (m : Model) (v : Version) :
    Model.Ext m (applyV d pri system m v).1 := by
  unfold applyV; split
  · exact Model.Ext.refl m
  · exact updateWith_ext _ _ _ _ _

theorem update_ext (d : Defects) (pri : List Key) (m : Model) (v : Version) : Model.Ext m (update d pri m v).1 :=
  update_eq_applyV d pri m v ▸ applyV_ext d pri false m v

theorem updateSystem_ext (d : Defects) (pri : List Key) (m : Model) (v : Version) : Model.Ext m (updateSystem d pri m v).1 :=
  updateSystem_eq_applyV d pri m v ▸ applyV_ext d pri true m v

def PosFrom {α : Type} (pos : α → Nat) : Nat → List α → Prop
  | _, [] => True
  | s, x :: xs => pos x = s ∧ PosFrom pos (s + 1) xs

section
variable {α : Type} {pos : α → Nat} {s : Nat} {l : List α}

theorem map_map_name {κ : Type} (name : α → κ) (g : α → α) (hg : ∀ x, name (g x) = name x) (l : List α) :
    (l.map g).map name = l.map name := by
  rw [List.map_map]; exact List.map_congr_left fun x _ => hg x

theorem PosFrom_iff : PosFrom pos s l ↔ l.map pos = List.range' s l.length := by
  induction l generalizing s with
  | nil => exact ⟨fun _ => rfl, fun _ => trivial⟩
  | cons x xs ih => rw [PosFrom, ih, List.map_cons, List.length_cons, List.range'_succ, List.cons.injEq]

theorem PosFrom_mem (h : PosFrom pos s l) {y : α} (hy : y ∈ l) : s ≤ pos y ∧ pos y < s + l.length :=
  List.mem_range'_1.mp (PosFrom_iff.mp h ▸ List.mem_map_of_mem hy)

theorem PosFrom_nodup (h : PosFrom pos s l) : (l.map pos).Nodup :=
  PosFrom_iff.mp h ▸ List.nodup_range'

theorem PosFrom_map (pos : α → Nat) (g : α → α) (hg : ∀ x, pos (g x) = pos x) (s : Nat) (l : List α) :
    PosFrom pos s (l.map g) ↔ PosFrom pos s l := by
  rw [PosFrom_iff, PosFrom_iff, map_map_name pos g hg, List.length_map]

theorem PosFrom_append (pos : α → Nat) (s : Nat) (l r : List α) :
    PosFrom pos s (l ++ r) ↔ PosFrom pos s l ∧ PosFrom pos (s + l.length) r := by
  induction l generalizing s with
  | nil => exact ⟨fun h => ⟨trivial, h⟩, fun h => h.2⟩
  | cons x xs ih => rw [List.cons_append, PosFrom, PosFrom, ih, List.length_cons, and_assoc, Nat.add_right_comm, Nat.add_assoc]

theorem PosFrom_eq_of_pos_eq (h : PosFrom pos s l)
    {x y : α} (hx : x ∈ l) (hy : y ∈ l) (hp : pos x = pos y) : x = y :=
  eq_of_nodup_map (PosFrom_nodup h) hx hy hp

end

/-- what `Entity::update`, `nsStep` and `update_with` build when they succeed -/
def mergeBy {α : Type} (name : α → String) (step : α → α) (old new : List α) : List α :=
  old.map step ++ new.filter fun y => !old.any fun x => name x == name y

theorem find?_name_some {α : Type} {name : α → String} {l : List α} {a : String} {x : α}
    (h : l.find? (fun y => name y == a) = some x) : x ∈ l ∧ name x = a :=
  find_key_some (key := name) h

section
variable {α : Type} {name : α → String} {step : α → α} {old new : List α}

theorem mem_mergeBy {x : α} :
    x ∈ mergeBy name step old new ↔ (∃ y ∈ old, step y = x) ∨ (x ∈ new ∧ ∀ z ∈ old, ¬ name z = name x) := by
  simp only [mergeBy, List.mem_append, List.mem_map, List.mem_filter, Bool.not_eq_true', List.any_eq_false, beq_iff_eq]

theorem mergeBy_congr {step' : α → α} (new : List α)
    (h : ∀ x ∈ old, step x = step' x) : mergeBy name step old new = mergeBy name step' old new := by
  unfold mergeBy; rw [List.map_congr_left h]

theorem find?_mergeBy (name : α → String) (step : α → α) (hstep : ∀ x, name (step x) = name x)
    (old new : List α) (a : String) :
    (mergeBy name step old new).find? (fun x => name x == a) =
      match old.find? (fun x => name x == a) with
      | some x => some (step x)
      | none => new.find? (fun x => name x == a) := by
  unfold mergeBy
  rw [List.find?_append, List.find?_map, show (fun x => name x == a) ∘ step = fun x => name x == a from
    funext fun x => congrArg (· == a) (hstep x)]
  cases h : old.find? (fun x => name x == a) with
  | some x => rfl
  | none =>
    -- a member of `new` named `a` has no namesake in `old`: the filter keeps it
    rw [List.find?_filter]
    refine congrArg (List.find? · new) (funext fun y => ?_)
    cases hy : name y == a
    · simp
    · have : old.any (fun x => name x == name y) = false :=
        List.any_eq_false.mpr fun x hx => by rw [beq_iff_eq.mp hy]; exact List.find?_eq_none.mp h x hx
      simp [this]

theorem nodup_mergeBy {κ : Type} {key : α → κ} (hkey : ∀ x, key (step x) = key x) (ho : (old.map key).Nodup) (hn : (new.map key).Nodup)
    (h : ∀ y ∈ old, ∀ x ∈ new, (∀ z ∈ old, name z ≠ name x) → key y ≠ key x) :
    ((mergeBy name step old new).map key).Nodup := by
  unfold mergeBy
  rw [List.map_append, map_map_name key step hkey, List.nodup_append]
  refine ⟨ho, hn.sublist (List.filter_sublist.map _), fun a ha b hb => ?_⟩
  obtain ⟨y, hy, rfl⟩ := List.mem_map.mp ha
  obtain ⟨x, hx, rfl⟩ := List.mem_map.mp hb
  have ⟨hxn, hxf⟩ := List.mem_filter.mp hx
  rw [Bool.not_eq_true', List.any_eq_false] at hxf
  exact h y hy x hxn fun z hz hzx => hxf z hz (beq_iff_eq.mpr hzx)

theorem mem_names_mergeBy (hname : ∀ x, name (step x) = name x) {a : String}
    (h : a ∈ old.map name ∨ a ∈ new.map name) : a ∈ (mergeBy name step old new).map name := by
  simp only [List.mem_map, mem_mergeBy] at h ⊢
  by_cases ho : ∃ z ∈ old, name z = a
  · obtain ⟨z, hz, rfl⟩ := ho
    exact ⟨step z, Or.inl ⟨z, hz, rfl⟩, hname z⟩
  · obtain ⟨x, hx, rfl⟩ := h.resolve_left ho
    exact ⟨x, Or.inr ⟨hx, fun z hz hzx => ho ⟨z, hz, hzx⟩⟩, rfl⟩

theorem merge_names_pos (name : α → String) (pos : α → Nat) (step : α → α)
    (hname : ∀ x, name (step x) = name x) (hpos : ∀ x, pos (step x) = pos x) (s : Nat) (old new : List α)
    (ho : PosFrom pos s old) (hn : PosFrom pos s new) (hnn : (new.map name).Nodup)
    (hm : ∀ x ∈ old, ∃ y, new.find? (fun y => name y == name x) = some y ∧ pos y = pos x) :
    (mergeBy name step old new).map name = new.map name ∧ PosFrom pos s (mergeBy name step old new) := by
  replace hm : ∀ x ∈ old, ∃ y ∈ new, name y = name x ∧ pos y = pos x := fun x hx =>
    have ⟨y, hf, hp⟩ := hm x hx
    ⟨y, (find?_name_some hf).1, (find?_name_some hf).2, hp⟩
  unfold mergeBy
  induction old generalizing s new with
  | nil =>
    have : new.filter (fun y => !([] : List α).any fun x => name x == name y) = new := List.filter_eq_self.mpr fun _ _ => rfl
    rw [List.map_nil, List.nil_append, this]
    exact ⟨rfl, hn⟩
  | cons x xs ih =>
    obtain ⟨y, hy, hyn, hyp⟩ := hm x List.mem_cons_self
    cases new with
    | nil => cases hy
    | cons y0 ys =>
      -- the member matching `x` has position `s`: it is the head, and it matches nothing else
      have hy0 := PosFrom_eq_of_pos_eq hn hy List.mem_cons_self (hyp.trans (ho.1.trans hn.1.symm))
      subst hy0
      have hnn' := List.nodup_cons.mp hnn
      obtain ⟨h1, h2⟩ := ih (s + 1) ys ho.2 hn.2 hnn'.2 fun x' hx' => by
        obtain ⟨y', hy', h1, h2⟩ := hm x' (List.mem_cons_of_mem _ hx')
        rcases List.mem_cons.mp hy' with rfl | h
        · exact absurd (PosFrom_mem ho.2 hx').1 (by rw [← h2, hn.1]; exact Nat.lt_irrefl s)
        · exact ⟨y', h, h1, h2⟩
      have hrest : (y :: ys).filter (fun z => !(x :: xs).any fun x' => name x' == name z) =
          ys.filter fun z => !xs.any fun x' => name x' == name z := by
        rw [List.filter_cons_of_neg (by rw [List.any_cons, hyn, beq_self_eq_true]; nofun)]
        refine List.filter_congr fun z hz => ?_
        rw [List.any_cons, beq_eq_false_iff_ne.mpr fun h => hnn'.1 (List.mem_map.mpr ⟨z, hz, h.symm.trans hyn.symm⟩), Bool.false_or]
      rw [hrest, List.map_cons, List.cons_append]
      exact ⟨by rw [List.map_cons, List.map_cons, hname, hyn, h1], (hpos x).trans ho.1, h2⟩

end

def Entity.WF (e : Entity) : Prop :=
  (e.fields.map (·.name)).Nodup ∧ PosFrom (fun (f : Field) => f.short) reservedShort e.fields

def Ns.WF (n : Ns) : Prop :=
  (n.ents.map (·.name)).Nodup ∧ PosFrom (fun (e : Entity) => e.k) 0 n.ents ∧ ∀ e ∈ n.ents, e.WF

/-- the shape of the entities of a namespace (`Ns.WF`) and of the namespaces of a parsed version (`NssWFp`) -/
def Keyed {α : Type} (name : α → String) (pos : α → Nat) (P : α → Prop) (s : Nat) (l : List α) : Prop :=
  (l.map name).Nodup ∧ PosFrom pos s l ∧ ∀ x ∈ l, P x

/-- well-formedness of a freshly parsed model: namespace ids are positional too -/
def NssWFp (decal : Nat) (nss : List Ns) : Prop :=
  Keyed (·.name) (fun (n : Ns) => n.id) Ns.WF decal nss

def Model.WF (m : Model) : Prop :=
  (m.nss.map (·.name)).Nodup ∧ (m.nss.map (·.id)).Nodup ∧
    (∀ n ∈ m.nss, (n.name = sysNs ↔ n.id = 0)) ∧ ∀ n ∈ m.nss, n.WF

theorem Model.WF.distinct {m : Model} (hm : m.WF) :
    (m.nss.map (·.id)).Nodup ∧
    (∀ n ∈ m.nss, (n.ents.map (·.k)).Nodup ∧ ∀ e ∈ n.ents, (e.fields.map (·.short)).Nodup) ∧
    (∀ n₁ ∈ m.nss, ∀ n₂ ∈ m.nss, ∀ e₁ ∈ n₁.ents, ∀ e₂ ∈ n₂.ents,
        entShort n₁ e₁ = entShort n₂ e₂ → n₁ = n₂ ∧ e₁ = e₂) := by
  refine ⟨hm.2.1, fun n hn => ⟨PosFrom_nodup (hm.2.2.2 n hn).2.1,
    fun e he => PosFrom_nodup ((hm.2.2.2 n hn).2.2 e he).2⟩, ?_⟩
  intro n₁ h₁ n₂ h₂ e₁ he₁ e₂ he₂ heq
  unfold entShort at heq
  simp only [Prod.mk.injEq] at heq
  have hns : n₁ = n₂ := by
    by_cases c1 : n₁.name = "" <;> by_cases c2 : n₂.name = ""
    · exact eq_of_nodup_map hm.1 h₁ h₂ (c1.trans c2.symm)
    · simp [c1, c2] at heq
    · simp [c1, c2] at heq
    · simp only [beq_iff_eq, c1, c2, if_false, Option.some.injEq] at heq
      exact eq_of_nodup_map hm.2.1 h₁ h₂ heq.1
  subst hns
  exact ⟨rfl, PosFrom_eq_of_pos_eq (hm.2.2.2 n₁ h₁).2.1 he₁ he₂ heq.2⟩

theorem wf_empty : Model.empty.WF := ⟨List.nodup_nil, List.nodup_nil, nofun, nofun⟩

section
variable {α : Type} {name : α → String} {pos : α → Nat} {P : α → Prop} {s : Nat} {l : List α}

theorem not_mem_names_of_any {a : String}
    (h : ¬ l.any (fun x => name x == a) = true) : a ∉ l.map name := fun hm =>
  have ⟨x, hx, hxa⟩ := List.mem_map.mp hm
  h (List.any_eq_true.mpr ⟨x, hx, beq_iff_eq.mpr hxa⟩)

theorem nodup_map_snoc {κ : Type} {name : α → κ} {x : α} (h : (l.map name).Nodup)
    (hx : name x ∉ l.map name) : ((l ++ [x]).map name).Nodup := by
  rw [List.map_append, List.nodup_append]
  exact ⟨h, List.pairwise_singleton _ _, fun a ha b hb => by rw [List.mem_singleton.mp hb]; exact fun e => hx (e ▸ ha)⟩

theorem PosFrom_snoc {x : α} (h : PosFrom pos s l)
    (hx : pos x = s + l.length) : PosFrom pos s (l ++ [x]) :=
  (PosFrom_append pos s l [x]).mpr ⟨h, hx, trivial⟩

theorem Keyed.snoc (h : Keyed name pos P s l) (x : α) (hn : name x ∉ l.map name) (hp : pos x = s + l.length) (hx : P x) :
    Keyed name pos P s (l ++ [x]) :=
  ⟨nodup_map_snoc h.1 hn, PosFrom_snoc h.2.1 hp,
    fun y hy => (List.mem_append.mp hy).elim (h.2.2 y) fun hy => by rw [List.mem_singleton.mp hy]; exact hx⟩

theorem Keyed.map (h : Keyed name pos P s l) (g : α → α) (hn : ∀ x, name (g x) = name x) (hp : ∀ x, pos (g x) = pos x)
    (hg : ∀ x ∈ l, P x → P (g x)) : Keyed name pos P s (l.map g) :=
  ⟨by rw [map_map_name name g hn]; exact h.1, (PosFrom_map pos g hp s l).mpr h.2.1,
    List.forall_mem_map.mpr fun x hx => hg x hx (h.2.2 x hx)⟩

theorem Keyed.update (h : Keyed name pos P s l) (a : String) (g : α → α) (hn : ∀ x, name (g x) = name x) (hp : ∀ x, pos (g x) = pos x)
    (hg : ∀ x ∈ l, name x = a → P x → P (g x)) : Keyed name pos P s (l.map fun x => if name x == a then g x else x) :=
  h.map _ (fun x => by rw [apply_ite name, hn, ite_self]) (fun x => by rw [apply_ite pos, hp, ite_self]) fun x hx hP => by
    by_cases hxa : name x = a
    · rw [if_pos (beq_iff_eq.mpr hxa)]; exact hg x hx hxa hP
    · rw [if_neg (mt beq_iff_eq.mp hxa)]; exact hP

theorem Keyed.merge {old new : List α} (step : α → α) (ho : PosFrom pos s old) (hn : Keyed name pos P s new)
    (hm : ∀ x ∈ old, ∃ y, new.find? (fun y => name y == name x) = some y ∧ pos y = pos x)
    (hname : ∀ x, name (step x) = name x) (hpos : ∀ x, pos (step x) = pos x) (hP : ∀ x ∈ old, P (step x)) :
    (mergeBy name step old new).map name = new.map name ∧ Keyed name pos P s (mergeBy name step old new) := by
  obtain ⟨hnames, hp⟩ := merge_names_pos name pos step hname hpos s old new ho hn.2.1 hn.1 hm
  refine ⟨hnames, hnames ▸ hn.1, hp, fun x hx => ?_⟩
  rcases mem_mergeBy.mp hx with ⟨y, hy, rfl⟩ | ⟨hx, _⟩
  · exact hP y hy
  · exact hn.2.2 x hx

end

theorem parseFields_wf (as : List AField) (acc r : List Field)
    (h : parseFields as acc = .ok r)
    (hn : (acc.map (·.name)).Nodup) (hp : PosFrom (fun (f : Field) => f.short) reservedShort acc) :
    (r.map (·.name)).Nodup ∧ PosFrom (fun (f : Field) => f.short) reservedShort r := by
  induction as generalizing acc with
  | nil => simp only [parseFields, Except.ok.injEq] at h; subst h; exact ⟨hn, hp⟩
  | cons a rest ih =>
    simp only [parseFields] at h
    split at h
    · cases h
    · cases h
    · split at h
      · cases h
      · split at h
        · cases h
        · split at h
          · cases h
          · rename_i hdup _
            exact ih _ h
              (nodup_map_snoc hn (not_mem_names_of_any hdup))
              (PosFrom_snoc hp rfl)

theorem insertEnt_wf (decal : Nat) (nss r : List Ns) (nsName : String) (e : Entity)
    (h : insertEnt decal nss nsName e = .ok r) (hw : NssWFp decal nss) (he : e.WF) : NssWFp decal r := by
  unfold insertEnt at h
  cases hfind : nss.find? (·.name == nsName) with
  | none =>
    rw [hfind] at h
    cases h
    have hnew : nsName ∉ nss.map (·.name) := not_mem_names_of_any fun h =>
      have ⟨x, hx, hp⟩ := List.any_eq_true.mp h
      List.find?_eq_none.mp hfind x hx hp
    exact hw.snoc _ hnew (Nat.add_comm _ _)
      (Keyed.snoc (l := []) ⟨List.nodup_nil, trivial, nofun⟩ _ List.not_mem_nil rfl he)
  | some n =>
    rw [hfind] at h
    dsimp only at h
    by_cases hdup : (n.ents.any (·.name == e.name)) = true
    · rw [if_pos hdup] at h; cases h
    · rw [if_neg hdup] at h
      cases h
      refine hw.update nsName _ (fun _ => rfl) (fun _ => rfl) fun x hx hname hxw => ?_
      -- `x` is the namespace found: names are distinct
      obtain ⟨hn, hnn⟩ := find?_name_some hfind
      cases eq_of_nodup_map hw.1 hx hn (hname.trans hnn.symm)
      exact Keyed.snoc hxw _ (not_mem_names_of_any hdup) (Nat.zero_add _).symm he

theorem parseEntity_wf (decal : Nat) (nss r : List Ns) (nsName : String) (a : AEntity)
    (h : parseEntity decal nss nsName a = .ok r) (hw : NssWFp decal nss) : NssWFp decal r := by
  unfold parseEntity at h
  split at h
  · cases h
  · split at h
    · cases h
    · rename_i fields hf
      split at h
      · cases h
      · rename_i nss1 hi
        split at h
        · cases h
        · cases h
          -- setting the indexes of the new entity touches neither names nor ids
          exact (insertEnt_wf decal nss nss1 nsName _ hi hw (parseFields_wf a.fields [] fields hf List.nodup_nil trivial)).update
            nsName _ (fun _ => rfl) (fun _ => rfl) fun x _ _ hxw =>
              Keyed.update hxw a.name _ (fun _ => rfl) (fun _ => rfl) fun y _ _ hy => hy

theorem parseEnts_wf (decal : Nat) (nsName : String) (as : List AEntity) (nss r : List Ns)
    (h : parseEnts decal nsName as nss = .ok r) (hw : NssWFp decal nss) : NssWFp decal r := by
  induction as generalizing nss with
  | nil => cases h; exact hw
  | cons a rest ih =>
    simp only [parseEnts] at h
    split at h
    · cases h
    · rename_i nss1 h1
      exact ih nss1 h (parseEntity_wf decal nss nss1 nsName a h1 hw)

theorem parseNss_wf (decal : Nat) (v : Version) (nss r : List Ns)
    (h : parseNss decal v nss = .ok r) (hw : NssWFp decal nss) : NssWFp decal r := by
  induction v generalizing nss with
  | nil => cases h; exact hw
  | cons b rest ih =>
    simp only [parseNss] at h
    split at h
    · cases h
    · rename_i nss1 h1
      exact ih nss1 h (parseEnts_wf decal b.name b.ents nss nss1 h1 hw)

theorem parse_wf (decal : Nat) (v : Version) (nv : Model) (h : parse decal v = .ok nv) : NssWFp decal nv.nss := by
  unfold parse at h
  split at h
  · cases h
  · split at h
    · cases h
    · rename_i nss h1
      split at h
      · cases h
        exact parseNss_wf decal v [] nss h1 ⟨List.nodup_nil, trivial, nofun⟩
      · cases h

theorem firstErr_prio_none {α : Type} {chk : α → Option Err} {pri : List Key} {key : α → Key} {l : List α} :
    firstErr chk (prio pri key l) = none ↔ ∀ x ∈ l, chk x = none := by
  rw [firstErr_none]
  constructor
  · intro h x hx; exact h x ((mem_prio pri key l x).mpr hx)
  · intro h x hx; exact h x ((mem_prio pri key l x).mp hx)

theorem map_visited {α : Type} (name : α → String) (upd : α → α) {vis l : List α} (h : ∀ x ∈ l, x ∈ vis) :
    l.map (fun x => if vis.any (fun y => name y == name x) = true then upd x else x) = l.map upd :=
  List.map_congr_left fun x hx => if_pos (List.any_eq_true.mpr ⟨x, h x hx, beq_self_eq_true (name x)⟩)

theorem map_applied_all {α : Type} {chk : α → Option Err} {pri : List Key} {key : α → Key} {l : List α}
    (name : α → String) (upd : α → α) (h : ∀ x ∈ l, chk x = none) :
    l.map (fun x => if (okPrefix chk (prio pri key l) ++ (firstBad chk (prio pri key l)).toList).any
        (fun y => name y == name x) = true then upd x else x) = l.map upd := by
  have hf := (firstErr_prio_none (pri := pri) (key := key)).mpr h
  rw [okPrefix_of_firstErr_none _ _ hf, firstBad_none_of_firstErr_none _ _ hf]
  exact map_visited name upd fun x hx => List.mem_append_left _ ((mem_prio pri key l x).mpr hx)

/-- what a successful `Entity::update` produces -/
def Entity.merged (d : Defects) (pri : List Key) (nsn : String) (old new : Entity) : Entity :=
  { old with
    deprecated := new.deprecated
    fullText := new.fullText
    fields := old.fields.map (fun f => mergeField f new.fields) ++
      renumber (reservedShort + old.fields.length)
        (if d.hashOrderIds then prio pri (fun (f : Field) => Key.fld nsn old.name f.name) (old.fresh new) else old.fresh new)
    indexes := new.indexes
    toRemove := addRemoved old.toRemove (old.indexes.filter fun ix => !new.indexes.contains ix) }

def Entity.accepts (d : Defects) (old new : Entity) : Prop :=
  (∀ f ∈ old.fields, checkField d f new.fields = none) ∧ (∀ nf ∈ old.fresh new, freshCheck nf = none)

theorem firstErr_visit_none {α : Type} (chk : α → Option Err) (c : Bool) (pri : List Key) (key : α → Key) (l : List α) :
    firstErr chk (if c then prio pri key l else l) = none ↔ ∀ x ∈ l, chk x = none := by
  cases c
  · exact firstErr_none chk l
  · exact firstErr_prio_none

theorem Entity.update_ok (d : Defects) (pri : List Key) (nsn : String) (old new : Entity) (h : old.accepts d new) :
    old.update d pri nsn new = (old.merged d pri nsn new, none) := by
  have h1 := (firstErr_prio_none (pri := pri) (key := fun (f : Field) => Key.fld nsn old.name f.name)).mpr h.1
  have h2 := (firstErr_visit_none freshCheck d.hashOrderIds pri (fun f => Key.fld nsn old.name f.name) (old.fresh new)).mpr h.2
  unfold Entity.fresh at h2
  unfold Entity.update
  simp only
  rw [h1]
  simp only
  rw [okPrefix_of_firstErr_none _ _ h1, map_visited (fun (f : Field) => f.name) _ fun f hf => (mem_prio ..).mpr hf, h2,
    okPrefix_of_firstErr_none _ _ h2, List.length_map]
  rfl

theorem Entity.update_none_iff (d : Defects) (pri : List Key) (nsn : String) (old new : Entity) :
    (old.update d pri nsn new).2 = none ↔ old.accepts d new := by
  refine ⟨fun h => ?_, fun h => by rw [Entity.update_ok d pri nsn old new h]⟩
  unfold Entity.update at h
  simp only at h
  split at h
  · cases h
  · rename_i h1
    split at h
    · cases h
    · rename_i h2
      exact ⟨firstErr_prio_none.mp h1, (firstErr_visit_none _ _ _ _ _).mp h2⟩

def entAccepted (d : Defects) (nn : Ns) (e : Entity) : Prop :=
  ∃ ne, nn.ents.find? (·.name == e.name) = some ne ∧ ne.k = e.k ∧ e.accepts d ne

theorem entStep_ok {d : Defects} {pri : List Key} {nn : Ns} {e ne : Entity}
    (hf : nn.ents.find? (·.name == e.name) = some ne) (hk : ne.k = e.k) (ha : e.accepts d ne) :
    entStep d pri nn e = (e.merged d pri nn.name ne, none) := by
  unfold entStep
  simp only [hf, hk, bne_self_eq_false, Bool.false_eq_true, if_false]
  exact Entity.update_ok d pri nn.name e ne ha

theorem entStep_none_iff (d : Defects) (pri : List Key) (nn : Ns) (e : Entity) :
    (entStep d pri nn e).2 = none ↔ entAccepted d nn e := by
  refine ⟨fun h => ?_, fun ⟨ne, hf, hk, ha⟩ => by rw [entStep_ok hf hk ha]⟩
  unfold entStep at h
  cases hf : nn.ents.find? (·.name == e.name) with
  | none => rw [hf] at h; cases h
  | some ne =>
    rw [hf] at h
    dsimp only at h
    split at h
    · cases h
    · rename_i hk
      exact ⟨ne, hf, eq_of_not_bne hk, (Entity.update_none_iff ..).mp h⟩

/-- what a successful iteration over a namespace produces -/
def Ns.merged (d : Defects) (pri : List Key) (old nn : Ns) : Ns :=
  { old with ents := mergeBy (·.name) (fun e => (entStep d pri nn e).1) old.ents nn.ents }

/-- `update_with` leaves namespace `old` as it is: the version does not name it, and need not (a system version only
    brings `sys`, a user version never names `sys`) -/
def leftAlone (system : Bool) (nv : Model) (old : Ns) : Prop :=
  nv.nss.find? (·.name == old.name) = none ∧ (system = true ∨ old.name = sysNs)

theorem leftAlone.of_name {system : Bool} {nv : Model} {x x' : Ns} (h : leftAlone system nv x) (hn : x'.name = x.name) :
    leftAlone system nv x' := by
  unfold leftAlone at h ⊢
  rw [hn]; exact h

def nsAccepted (d : Defects) (system : Bool) (nv : Model) (old : Ns) : Prop :=
  leftAlone system nv old ∨
  ∃ nn, nv.nss.find? (·.name == old.name) = some nn ∧ nn.id = old.id ∧ ∀ e ∈ old.ents, entAccepted d nn e

theorem nsStep_ok_some {d : Defects} {pri : List Key} {system : Bool} {nv : Model} {old nn : Ns}
    (hf : nv.nss.find? (·.name == old.name) = some nn) (hid : nn.id = old.id)
    (ha : ∀ e ∈ old.ents, entAccepted d nn e) :
    nsStep d pri system nv old = (Ns.merged d pri old nn, none) := by
  unfold nsStep
  simp only [hf, hid, bne_self_eq_false, Bool.false_eq_true, if_false]
  have hall : ∀ e ∈ old.ents, (fun e => (entStep d pri nn e).2) e = none :=
    fun e he => (entStep_none_iff d pri nn e).mpr (ha e he)
  rw [firstErr_prio_none.mpr hall]
  simp only
  rw [map_applied_all (fun (e : Entity) => e.name) (fun e => (entStep d pri nn e).1) hall]
  rfl

theorem nsStep_ok_none {d : Defects} {pri : List Key} {system : Bool} {nv : Model} {old : Ns}
    (hf : nv.nss.find? (·.name == old.name) = none) (h : system = true ∨ old.name = sysNs) :
    nsStep d pri system nv old = (old, none) := by
  unfold nsStep
  simp only [hf]
  rcases h with h | h
  · simp [h]
  · simp [h]

theorem nsStep_none_iff (d : Defects) (pri : List Key) (system : Bool) (nv : Model) (old : Ns) :
    (nsStep d pri system nv old).2 = none ↔ nsAccepted d system nv old := by
  refine ⟨fun h => ?_, fun h => ?_⟩
  · unfold nsStep at h
    cases hf : nv.nss.find? (·.name == old.name) with
    | none =>
      rw [hf] at h
      dsimp only at h
      rw [ite_some_eq_none] at h
      refine Or.inl ⟨hf, ?_⟩
      cases system
      · exact Or.inr (eq_of_not_bne h.1)
      · exact Or.inl rfl
    | some nn =>
      rw [hf] at h
      dsimp only at h
      by_cases hid : (nn.id != old.id) = true
      · rw [if_pos hid] at h; cases h
      · rw [if_neg hid] at h
        split at h
        · cases h
        · rename_i he
          exact Or.inr ⟨nn, hf, eq_of_not_bne hid, fun e he' => (entStep_none_iff d pri nn e).mp (firstErr_prio_none.mp he e he')⟩
  · rcases h with ⟨hf, h⟩ | ⟨nn, hf, hid, he⟩
    · rw [nsStep_ok_none hf h]
    · rw [nsStep_ok_some hf hid he]

theorem guard_true_names {nv : Model} (hg : nsGuard true nv = false) : ∀ nn ∈ nv.nss, nn.name = sysNs :=
  fun nn hnn => by simpa using List.any_eq_false.mp hg nn hnn

theorem guard_false_names {nv : Model} (hg : nsGuard false nv = false) : ∀ nn ∈ nv.nss, nn.name ≠ sysNs :=
  fun nn hnn => by simpa using List.any_eq_false.mp hg nn hnn

theorem find?_sys_none {nv : Model} (hg : nsGuard false nv = false) {a : String} (ha : a = sysNs) :
    nv.nss.find? (·.name == a) = none :=
  List.find?_eq_none.mpr fun z hz => by rw [ha]; simpa using guard_false_names hg z hz

def Model.merged (d : Defects) (pri : List Key) (system : Bool) (m nv : Model) : Model :=
  { nss := mergeBy (·.name) (fun n => (nsStep d pri system nv n).1) m.nss nv.nss }

def updAccepted (d : Defects) (system : Bool) (m nv : Model) : Prop :=
  nsGuard system nv = false ∧ ∀ n ∈ m.nss, nsAccepted d system nv n

theorem updateWith_ok (d : Defects) (pri : List Key) (system : Bool) (m nv : Model)
    (h : updAccepted d system m nv) : updateWith d pri system m nv = (Model.merged d pri system m nv, none) := by
  unfold updateWith
  have hg := h.1
  unfold nsGuard at hg
  simp only [hg, Bool.false_eq_true, if_false]
  have hall : ∀ n ∈ m.nss, (fun n => (nsStep d pri system nv n).2) n = none :=
    fun n hn => (nsStep_none_iff d pri system nv n).mpr (h.2 n hn)
  rw [firstErr_prio_none.mpr hall]
  simp only
  rw [map_applied_all (fun (n : Ns) => n.name) (fun n => (nsStep d pri system nv n).1) hall]
  rfl

theorem updateWith_none_iff (d : Defects) (pri : List Key) (system : Bool) (m nv : Model) :
    (updateWith d pri system m nv).2 = none ↔ updAccepted d system m nv := by
  refine ⟨fun h => ?_, fun h => by rw [updateWith_ok d pri system m nv h]⟩
  cases hg : nsGuard system nv
  · refine ⟨hg, fun n hn => ?_⟩
    unfold nsGuard at hg
    unfold updateWith at h
    simp only [hg, Bool.false_eq_true, if_false] at h
    split at h
    · cases h
    · rename_i he
      exact (nsStep_none_iff d pri system nv n).mp (firstErr_prio_none.mp he n hn)
  · rw [updateWith_of_guard hg] at h; cases h

theorem renumber_of_PosFrom (s : Nat) (l : List Field) (h : PosFrom (fun (f : Field) => f.short) s l) :
    renumber s l = l := by
  induction l generalizing s with
  | nil => rfl
  | cons f fs ih =>
    simp only [renumber]
    rw [ih _ h.2]
    have := h.1
    cases f; simp_all

theorem checkField_none {d : Defects} {f : Field} {nfs : List Field} (h : checkField d f nfs = none) :
    ∃ nf, nfs.find? (·.name == f.name) = some nf ∧ nf.short = f.short ∧ nf.ty = f.ty ∧
      ((f.nullable || (!d.defaultDropAccepted && f.dflt.isSome)) && !nf.nullable && nf.dflt.isNone && !f.ty.isRef) = false := by
  unfold checkField at h
  cases hf : nfs.find? (·.name == f.name) with
  | none => rw [hf] at h; cases h
  | some nf =>
    rw [hf] at h
    dsimp only at h
    rw [ite_some_eq_none, ite_some_eq_none, ite_some_eq_none] at h
    exact ⟨nf, rfl, eq_of_not_bne h.1, eq_of_not_bne h.2.1, (Bool.not_eq_true _).mp h.2.2.1⟩

theorem mergeField_of_find {f nf : Field} {nfs : List Field} (h : nfs.find? (·.name == f.name) = some nf) :
    mergeField f nfs = { f with nullable := nf.nullable, dflt := nf.dflt, deprecated := nf.deprecated } := by
  unfold mergeField; rw [h]

theorem Entity.merged_fields (pri : List Key) (nsn : String) (d : Defects) (hd : d.hashOrderIds = false) (e ne : Entity)
    (he : e.WF) (hne : ne.WF) (ha : e.accepts d ne) :
    (e.merged d pri nsn ne).fields = mergeBy (·.name) (fun f => mergeField f ne.fields) e.fields ne.fields ∧
    (e.merged d pri nsn ne).fields.map (·.name) = ne.fields.map (·.name) ∧ (e.merged d pri nsn ne).WF := by
  obtain ⟨hnames, hpos⟩ := merge_names_pos (fun (f : Field) => f.name) (fun f => f.short) (fun f => mergeField f ne.fields)
    (fun f => mergeField_name f _) (fun f => mergeField_short f _) reservedShort e.fields ne.fields he.2 hne.2 hne.1
    fun x hx => have ⟨nf, hf, hs, _⟩ := checkField_none (ha.1 x hx); ⟨nf, hf, hs⟩
  have hfields : (e.merged d pri nsn ne).fields = mergeBy (·.name) (fun f => mergeField f ne.fields) e.fields ne.fields := by
    -- the new fields already carry the numbers `insert_field` gives them
    have hfresh : PosFrom (fun (f : Field) => f.short) (reservedShort + e.fields.length) (e.fresh ne) := by
      have := ((PosFrom_append ..).mp hpos).2
      rwa [List.length_map] at this
    simp only [Entity.merged, hd, Bool.false_eq_true, if_false]
    rw [renumber_of_PosFrom _ _ hfresh]
    rfl
  rw [Entity.WF, hfields]
  exact ⟨rfl, hnames, (congrArg List.Nodup hnames).mpr hne.1, hpos⟩

theorem Ns.merged_wf (pri : List Key) (d : Defects) (hd : d.hashOrderIds = false) (old nn : Ns)
    (ho : old.WF) (hn : nn.WF) (ha : ∀ e ∈ old.ents, entAccepted d nn e) :
    (Ns.merged d pri old nn).ents.map (·.name) = nn.ents.map (·.name) ∧ (Ns.merged d pri old nn).WF :=
  Keyed.merge (name := fun (e : Entity) => e.name) (pos := fun e => e.k) (P := Entity.WF)
    (fun e => (entStep d pri nn e).1) ho.2.1 hn
    (fun x hx => have ⟨y, hf, hk, _⟩ := ha x hx; ⟨y, hf, hk⟩)
    (fun e => (entStep_ext d pri nn e).1) (fun e => (entStep_ext d pri nn e).2.1) fun x hx => by
      obtain ⟨y, hf, hk, hacc⟩ := ha x hx
      rw [entStep_ok hf hk hacc]
      exact (Entity.merged_fields pri nn.name d hd x y (ho.2.2 x hx) (hn.2.2 y (List.mem_of_find?_eq_some hf)) hacc).2.2

/-- in a parsed version that passes the guard of `update_with` (`update_system` numbers namespaces from 0, `update`
    from 1), `sys` is the namespace with id 0 -/
theorem parsed_sys_iff (system : Bool) (nv : Model) (hnv : NssWFp (if system then 0 else 1) nv.nss)
    (hg : nsGuard system nv = false) : ∀ x ∈ nv.nss, (x.name = sysNs ↔ x.id = 0) := by
  intro x hx
  cases system with
  | true =>
    -- every namespace is named `sys` and names are distinct: `x` is the first one
    have hx0 := guard_true_names hg x hx
    refine ⟨fun _ => ?_, fun _ => hx0⟩
    obtain ⟨y, ys, hl⟩ := List.exists_cons_of_ne_nil (List.ne_nil_of_mem hx)
    rw [hl] at hx hnv
    rw [eq_of_nodup_map hnv.1 hx List.mem_cons_self
      (hx0.trans (guard_true_names hg y (hl ▸ List.mem_cons_self)).symm)]
    exact hnv.2.1.1
  | false =>
    exact ⟨fun h => absurd h (guard_false_names hg x hx), fun h => absurd h (Nat.ne_of_gt (PosFrom_mem hnv.2.1 hx).1)⟩

theorem Model.merged_wf (pri : List Key) (d : Defects) (hd : d.hashOrderIds = false) (system : Bool)
    (m nv : Model) (hm : m.WF) (hnv : NssWFp (if system then 0 else 1) nv.nss)
    (ha : updAccepted d system m nv) : (Model.merged d pri system m nv).WF := by
  have hname := fun n => (nsStep_ext d pri system nv n).1
  have hid := fun n => (nsStep_ext d pri system nv n).2.1
  have h0 := parsed_sys_iff system nv hnv ha.1
  unfold Model.merged
  refine ⟨nodup_mergeBy hname hm.1 hnv.1 fun y hy x _ hxm => hxm y hy,
    nodup_mergeBy hid hm.2.1 (PosFrom_nodup hnv.2.1) fun y hy x hxnv hxm heq => ?_, fun n hn => ?_, fun n hn => ?_⟩
  · rcases ha.2 y hy with ⟨_, hs⟩ | ⟨nn, hnn, hnnid, _⟩
    · -- `y` is left alone: then both are the namespace `sys`, the one with id 0
      have : y.name = sysNs ∧ x.name = sysNs := by
        rcases hs with hs | hs
        · have hx := guard_true_names (hs ▸ ha.1) x hxnv
          exact ⟨(hm.2.2.1 y hy).mpr (heq ▸ (h0 x hxnv).mp hx), hx⟩
        · exact ⟨hs, (h0 x hxnv).mpr (heq ▸ (hm.2.2.1 y hy).mp hs)⟩
      exact hxm y hy (this.1.trans this.2.symm)
    · -- the namesake of `y` carries its id, so it is `x`
      obtain ⟨hnnm, hnnn⟩ := find?_name_some hnn
      cases PosFrom_eq_of_pos_eq hnv.2.1 hxnv hnnm (heq.symm.trans hnnid.symm)
      exact hxm y hy hnnn.symm
  · rcases mem_mergeBy.mp hn with ⟨y, hy, rfl⟩ | ⟨hn, _⟩
    · rw [hname, hid]; exact hm.2.2.1 y hy
    · exact h0 n hn
  · rcases mem_mergeBy.mp hn with ⟨y, hy, rfl⟩ | ⟨hn, _⟩
    · rcases ha.2 y hy with ⟨hnn, hs⟩ | ⟨nn, hnn, hnnid, hents⟩
      · rw [nsStep_ok_none hnn hs]; exact hm.2.2.2 y hy
      · rw [nsStep_ok_some hnn hnnid hents]
        exact (Ns.merged_wf pri d hd y nn (hm.2.2.2 y hy) (hnv.2.2 nn (List.mem_of_find?_eq_some hnn)) hents).2
    · exact hnv.2.2 n hn

def OptRel {α β : Type} (r : α → β → Prop) : Option α → Option β → Prop
  | some a, some b => r a b
  | none, none => True
  | _, _ => False

theorem OptRel.ind {α β : Type} {r : α → β → Prop} {motive : Option α → Option β → Prop}
    (hs : ∀ a b, r a b → motive (some a) (some b)) (hn : motive none none) :
    {o : Option α} → {o' : Option β} → OptRel r o o' → motive o o'
  | some a, some b, h => hs a b h
  | none, none, _ => hn
  | some _, none, h => h.elim
  | none, some _, h => h.elim

theorem OptRel.symm {α β : Type} {r : α → β → Prop} {r' : β → α → Prop} {o : Option α} {o' : Option β}
    (ho : OptRel r o o') (h : ∀ a b, r a b → r' b a) : OptRel r' o' o :=
  ho.ind (motive := fun o o' => OptRel r' o' o) h trivial

theorem OptRel.trans {α β γ : Type} {r : α → β → Prop} {r' : β → γ → Prop} {r'' : α → γ → Prop}
    {o : Option α} {o' : Option β} {o'' : Option γ} (h1 : OptRel r o o') (h2 : OptRel r' o' o'')
    (h : ∀ a b c, r a b → r' b c → r'' a c) : OptRel r'' o o'' :=
  match o, o', o'', h1, h2 with
  | some _, some _, some _, h1, h2 => h _ _ _ h1 h2
  | none, none, none, _, _ => trivial
  | some _, none, _, h1, _ => h1.elim
  | none, some _, _, h1, _ => h1.elim
  | _, some _, none, _, h2 => h2.elim
  | _, none, some _, _, h2 => h2.elim

theorem OptRel.map_eq {α β γ : Type} {r : α → β → Prop} {f : α → γ} {g : β → γ} (hfg : ∀ a b, r a b → f a = g b)
    {o : Option α} {o' : Option β} (h : OptRel r o o') : o.map f = o'.map g :=
  h.ind (motive := fun o o' => o.map f = o'.map g) (fun a b h => congrArg some (hfg a b h)) rfl

theorem OptRel.bind_eq {α β γ : Type} {r : α → β → Prop} {f : α → Option γ} {g : β → Option γ}
    (hfg : ∀ a b, r a b → f a = g b) {o : Option α} {o' : Option β} (h : OptRel r o o') : o.bind f = o'.bind g :=
  h.ind (motive := fun o o' => o.bind f = o'.bind g) hfg rfl

theorem OptRel.bind {α β γ δ : Type} {r : α → β → Prop} {r' : γ → δ → Prop} {f : α → Option γ} {g : β → Option δ}
    (hfg : ∀ a b, r a b → OptRel r' (f a) (g b)) {o : Option α} {o' : Option β} (h : OptRel r o o') :
    OptRel r' (o.bind f) (o'.bind g) :=
  h.ind (motive := fun o o' => OptRel r' (o.bind f) (o'.bind g)) hfg trivial

/-- looking a name up in two keyed lists: the second has no name the first lacks, and a member of the first has a
    related namesake in the second -/
theorem OptRel.find? {α : Type} {name : α → String} {r : α → α → Prop} {l l' : List α} {a : String}
    (hn : ∀ y ∈ l', name y ∈ l.map name)
    (h : ∀ x ∈ l, name x = a → ∃ y, l'.find? (fun y => name y == a) = some y ∧ r x y) :
    OptRel r (l.find? fun x => name x == a) (l'.find? fun y => name y == a) := by
  cases hf : l.find? (fun x => name x == a) with
  | some x =>
    obtain ⟨y, hy, hr⟩ := h x (find?_name_some hf).1 (find?_name_some hf).2
    rw [hy]; exact hr
  | none =>
    cases hf' : l'.find? (fun y => name y == a) with
    | none => trivial
    | some y =>
      obtain ⟨x, hx, hxy⟩ := List.mem_map.mp (hn y (find?_name_some hf').1)
      exact absurd (beq_iff_eq.mpr (hxy.trans (find?_name_some hf').2)) (List.find?_eq_none.mp hf x hx)

def Entity.SameIds (a b : Entity) : Prop :=
  a.k = b.k ∧ ∀ f, (a.findField f).map (·.short) = (b.findField f).map (·.short)

def Ns.SameIds (a b : Ns) : Prop :=
  a.id = b.id ∧ ∀ e, OptRel Entity.SameIds (a.findEnt e) (b.findEnt e)

def Model.SameUserIds (a b : Model) : Prop :=
  ∀ n, n ≠ sysNs → OptRel Ns.SameIds (a.findNs n) (b.findNs n)

theorem Entity.SameIds.symm {a b : Entity} (h : a.SameIds b) : b.SameIds a := ⟨h.1.symm, fun f => (h.2 f).symm⟩
theorem Entity.SameIds.trans {a b c : Entity} (h1 : a.SameIds b) (h2 : b.SameIds c) : a.SameIds c :=
  ⟨h1.1.trans h2.1, fun f => (h1.2 f).trans (h2.2 f)⟩

theorem Ns.SameIds.symm {a b : Ns} (h : a.SameIds b) : b.SameIds a :=
  ⟨h.1.symm, fun e => (h.2 e).symm fun _ _ => Entity.SameIds.symm⟩
theorem Ns.SameIds.trans {a b c : Ns} (h1 : a.SameIds b) (h2 : b.SameIds c) : a.SameIds c :=
  ⟨h1.1.trans h2.1, fun e => (h1.2 e).trans (h2.2 e) fun _ _ _ => Entity.SameIds.trans⟩

theorem Model.SameUserIds.symm {a b : Model} (h : a.SameUserIds b) : b.SameUserIds a :=
  fun n hn => (h n hn).symm fun _ _ => Ns.SameIds.symm
theorem Model.SameUserIds.trans {a b c : Model} (h1 : a.SameUserIds b) (h2 : b.SameUserIds c) : a.SameUserIds c :=
  fun n hn => (h1 n hn).trans (h2 n hn) fun _ _ _ => Ns.SameIds.trans

theorem Model.SameUserIds.nsId {a b : Model} (h : a.SameUserIds b) {n : String} (hn : n ≠ sysNs) : a.nsId n = b.nsId n :=
  OptRel.map_eq (fun _ _ h => h.1) (h n hn)

theorem Model.SameUserIds.findEntity {a b : Model} (h : a.SameUserIds b) {n : String} (hn : n ≠ sysNs) (e : String) :
    OptRel Entity.SameIds (a.findEntity n e) (b.findEntity n e) :=
  OptRel.bind (fun _ _ h => h.2 e) (h n hn)

theorem Model.SameUserIds.entK {a b : Model} (h : a.SameUserIds b) {n : String} (hn : n ≠ sysNs) (e : String) :
    a.entK n e = b.entK n e :=
  OptRel.map_eq (fun _ _ h => h.1) (h.findEntity hn e)

theorem Model.SameUserIds.fieldShort {a b : Model} (h : a.SameUserIds b) {n : String} (hn : n ≠ sysNs) (e f : String) :
    a.fieldShort n e f = b.fieldShort n e f := by
  unfold Model.fieldShort Model.findField
  rw [Option.map_bind, Option.map_bind]
  exact OptRel.bind_eq (fun _ _ h => h.2 f) (h.findEntity hn e)

theorem filter_fresh_nil {α : Type} {name : α → String} {old new : List α}
    (h : ∀ y ∈ new, name y ∈ old.map name) : new.filter (fun y => !old.any (fun x => name x == name y)) = [] :=
  List.filter_eq_nil_iff.mpr fun y hy hc => by
    obtain ⟨x, hx, hxy⟩ := List.mem_map.mp (h y hy)
    rw [Bool.not_eq_true', List.any_eq_false] at hc
    exact hc x hx (beq_iff_eq.mpr hxy)

theorem map_eq_self {α : Type} {g : α → α} {l : List α} (h : ∀ x ∈ l, g x = x) : l.map g = l :=
  (List.map_congr_left h).trans (List.map_id' l)

theorem mergeBy_eq_self {α : Type} {name : α → String} {step : α → α} {old new : List α} (hs : ∀ x ∈ old, step x = x)
    (hn : ∀ y ∈ new, name y ∈ old.map name) : mergeBy name step old new = old := by
  unfold mergeBy; rw [map_eq_self hs, filter_fresh_nil hn, List.append_nil]

theorem find?_self_of_nodup {α : Type} {name : α → String} {l : List α} (hnd : (l.map name).Nodup) {x : α} (hx : x ∈ l) :
    l.find? (fun y => name y == name x) = some x :=
  find_of_mem_nodup name hnd hx

def Field.Settled (f' : Field) (nfs : List Field) : Prop :=
  ∃ nf, nfs.find? (·.name == f'.name) = some nf ∧ nf.short = f'.short ∧ nf.ty = f'.ty ∧
    nf.nullable = f'.nullable ∧ nf.dflt = f'.dflt ∧ nf.deprecated = f'.deprecated

theorem Field.Settled.check (d : Defects) {f' : Field} {nfs : List Field} (h : f'.Settled nfs) : checkField d f' nfs = none := by
  obtain ⟨nf, hf, hs, ht, hn, hd, _⟩ := h
  unfold checkField
  simp only [hf, hs, ht, hn, hd, bne_self_eq_false, Bool.false_eq_true, if_false]
  cases f'.nullable <;> cases f'.dflt <;> simp

theorem Field.Settled.merge {f' : Field} {nfs : List Field} (h : f'.Settled nfs) : mergeField f' nfs = f' := by
  obtain ⟨nf, hf, _, _, hn, hd, hp⟩ := h
  unfold mergeField
  simp only [hf, hn, hd, hp]

theorem mergeField_settled {d : Defects} {f : Field} {nfs : List Field} (h : checkField d f nfs = none) :
    (mergeField f nfs).Settled nfs := by
  obtain ⟨nf, hf, hs, ht, _⟩ := checkField_none h
  refine ⟨nf, by rw [mergeField_name]; exact hf, by rw [mergeField_short]; exact hs, by rw [mergeField_ty]; exact ht, ?_, ?_, ?_⟩
  all_goals (unfold mergeField; simp only [hf])

theorem Field.Settled.of_mem (nfs : List Field) (hnd : (nfs.map (·.name)).Nodup) (f : Field) (hf : f ∈ nfs) : f.Settled nfs :=
  ⟨f, find?_self_of_nodup hnd hf, rfl, rfl, rfl, rfl, rfl⟩

def Entity.Settled (e' ne : Entity) : Prop :=
  e'.name = ne.name ∧ e'.k = ne.k ∧ (e'.deprecated = ne.deprecated ∧ e'.fullText = ne.fullText) ∧ e'.indexes = ne.indexes ∧
    e'.fields.map (·.name) = ne.fields.map (·.name) ∧ ∀ f' ∈ e'.fields, f'.Settled ne.fields

theorem fresh_nil_of_names {e' ne : Entity} (h : e'.fields.map (·.name) = ne.fields.map (·.name)) : e'.fresh ne = [] :=
  filter_fresh_nil (name := fun (f : Field) => f.name) (old := e'.fields)
    fun y hy => h ▸ List.mem_map.mpr ⟨y, hy, rfl⟩

theorem Entity.Settled.accepts (d : Defects) {e' ne : Entity} (h : e'.Settled ne) : e'.accepts d ne := by
  refine ⟨fun f hf => (h.2.2.2.2.2 f hf).check d, ?_⟩
  rw [fresh_nil_of_names h.2.2.2.2.1]
  simp

theorem Entity.Settled.sameIds {e' ne : Entity} (h : e'.Settled ne) : e'.SameIds ne :=
  ⟨h.2.1, fun f => OptRel.map_eq (r := fun (f' nf : Field) => nf.short = f'.short) (fun _ _ hs => hs.symm)
    (OptRel.find? (a := f) (fun _ hy => h.2.2.2.2.1 ▸ List.mem_map_of_mem hy) fun f' hf' hn =>
      have ⟨nf, hnf, hs, _⟩ := h.2.2.2.2.2 f' hf'
      ⟨nf, hn ▸ hnf, hs⟩)⟩

theorem Entity.Settled.merged_eq (d : Defects) (pri : List Key) (nsn : String) {e' ne : Entity} (h : e'.Settled ne) :
    e'.merged d pri nsn ne = e' := by
  have hfresh := fresh_nil_of_names h.2.2.2.2.1
  have hmap : e'.fields.map (fun f => mergeField f ne.fields) = e'.fields :=
    map_eq_self fun f hf => (h.2.2.2.2.2 f hf).merge
  unfold Entity.merged
  rw [hfresh, hmap, prio_of_length_le_one _ _ [] (Nat.zero_le 1)]
  simp only [ite_self, renumber, List.append_nil, ← h.2.2.1.1, ← h.2.2.1.2, ← h.2.2.2.1]
  have : (e'.indexes.filter fun ix => !e'.indexes.contains ix) = [] := by
    rw [List.filter_eq_nil_iff]; intro ix hix; simp [hix]
  rw [this]
  simp [addRemoved]

theorem Entity.merged_settled (pri : List Key) (nsn : String) (d : Defects) (hd : d.hashOrderIds = false) (e ne : Entity)
    (he : e.WF) (hne : ne.WF) (ha : e.accepts d ne) (hk : ne.k = e.k) (hname : ne.name = e.name) :
    (e.merged d pri nsn ne).Settled ne := by
  obtain ⟨h1, h2, _⟩ := Entity.merged_fields pri nsn d hd e ne he hne ha
  refine ⟨by simp [Entity.merged, hname], by simp [Entity.merged, hk], by simp [Entity.merged], by simp [Entity.merged], h2, ?_⟩
  intro f' hf'
  rcases mem_mergeBy.mp (h1 ▸ hf') with ⟨f, hf, rfl⟩ | ⟨hf', _⟩
  · exact mergeField_settled (ha.1 f hf)
  · exact Field.Settled.of_mem ne.fields hne.1 f' hf'

theorem Entity.Settled.refl (ne : Entity) (hne : ne.WF) : ne.Settled ne :=
  ⟨rfl, rfl, ⟨rfl, rfl⟩, rfl, rfl, fun f hf => Field.Settled.of_mem ne.fields hne.1 f hf⟩

def Ns.Settled (x' nn : Ns) : Prop :=
  x'.name = nn.name ∧ x'.id = nn.id ∧ x'.ents.map (·.name) = nn.ents.map (·.name) ∧
    ∀ e' ∈ x'.ents, ∃ ne, nn.ents.find? (·.name == e'.name) = some ne ∧ e'.Settled ne

theorem Ns.Settled.accepted (d : Defects) {x' nn : Ns} (h : x'.Settled nn) : ∀ e ∈ x'.ents, entAccepted d nn e := by
  intro e he
  obtain ⟨ne, hf, hs⟩ := h.2.2.2 e he
  exact ⟨ne, hf, hs.2.1.symm, hs.accepts d⟩

theorem Ns.Settled.sameIds {x' nn : Ns} (h : x'.Settled nn) : x'.SameIds nn :=
  ⟨h.2.1, fun e => OptRel.find? (a := e) (fun _ hy => h.2.2.1 ▸ List.mem_map_of_mem hy) fun e' he' hn =>
    have ⟨ne, hne, hs⟩ := h.2.2.2 e' he'
    ⟨ne, hn ▸ hne, hs.sameIds⟩⟩

theorem Ns.Settled.merged_eq (d : Defects) (pri : List Key) {x' nn : Ns} (h : x'.Settled nn) :
    Ns.merged d pri x' nn = x' := by
  unfold Ns.merged
  rw [mergeBy_eq_self (fun e he => ?_) fun ne hne => h.2.2.1 ▸ List.mem_map.mpr ⟨ne, hne, rfl⟩]
  obtain ⟨ne, hf, hs⟩ := h.2.2.2 e he
  rw [entStep_ok hf hs.2.1.symm (hs.accepts d)]
  exact hs.merged_eq d pri nn.name

theorem Ns.merged_settled (pri : List Key) (d : Defects) (hd : d.hashOrderIds = false) (old nn : Ns)
    (ho : old.WF) (hn : nn.WF) (hname : nn.name = old.name) (hid : nn.id = old.id)
    (ha : ∀ e ∈ old.ents, entAccepted d nn e) : (Ns.merged d pri old nn).Settled nn := by
  refine ⟨hname.symm, hid.symm, (Ns.merged_wf pri d hd old nn ho hn ha).1, fun e' he' => ?_⟩
  rcases mem_mergeBy.mp he' with ⟨x, hx, rfl⟩ | ⟨hmem, _⟩
  · obtain ⟨ne, hf, hk, hacc⟩ := ha x hx
    rw [entStep_ok hf hk hacc]
    exact ⟨ne, hf, Entity.merged_settled pri nn.name d hd x ne (ho.2.2 x hx) (hn.2.2 ne (List.mem_of_find?_eq_some hf)) hacc hk
      (find?_name_some hf).2⟩
  · exact ⟨e', find?_self_of_nodup hn.1 hmem, Entity.Settled.refl e' (hn.2.2 e' hmem)⟩

theorem Ns.Settled.refl (nn : Ns) (hn : nn.WF) : nn.Settled nn :=
  ⟨rfl, rfl, rfl, fun e he => ⟨e, find?_self_of_nodup hn.1 he, Entity.Settled.refl e (hn.2.2 e he)⟩⟩

def Model.SettledFor (system : Bool) (m nv : Model) : Prop :=
  (∀ x ∈ m.nss, leftAlone system nv x ∨ ∃ nn, nv.nss.find? (·.name == x.name) = some nn ∧ x.Settled nn) ∧
  ∀ nn ∈ nv.nss, nn.name ∈ m.nss.map (·.name)

/-- a model settled for a user version carries the ids of that text: only `sys` may be missing from the text -/
theorem Model.SettledFor.sameUserIds {m nv : Model} (h : m.SettledFor false nv) : m.SameUserIds nv :=
  fun n hn => OptRel.find? (a := n) h.2 fun x hx hxn => (h.1 x hx).elim
    (fun hs => absurd (hxn ▸ hs.2.resolve_left nofun) hn)
    fun ⟨nn, hnn, hs⟩ => ⟨nn, hxn ▸ hnn, hs.sameIds⟩

theorem updateWith_settled (d : Defects) (pri : List Key) (system : Bool) (m' nv : Model)
    (hg : nsGuard system nv = false) (hs : m'.SettledFor system nv) : updateWith d pri system m' nv = (m', none) := by
  have hstep : ∀ x ∈ m'.nss, nsStep d pri system nv x = (x, none) := fun x hx => by
    rcases hs.1 x hx with ⟨hnn, h⟩ | ⟨nn, hnn, h⟩
    · exact nsStep_ok_none hnn h
    · rw [nsStep_ok_some hnn h.2.1.symm (h.accepted d), h.merged_eq d pri]
  have hacc : updAccepted d system m' nv :=
    ⟨hg, fun x hx => (nsStep_none_iff d pri system nv x).mp (congrArg Prod.snd (hstep x hx))⟩
  rw [updateWith_ok d pri system m' nv hacc]
  unfold Model.merged
  rw [mergeBy_eq_self (fun x hx => congrArg Prod.fst (hstep x hx)) hs.2]

theorem Model.merged_settled (pri : List Key) (d : Defects) (hd : d.hashOrderIds = false) (system : Bool) (decal : Nat)
    (m nv : Model) (hm : m.WF) (hnv : NssWFp decal nv.nss) (ha : updAccepted d system m nv) :
    (Model.merged d pri system m nv).SettledFor system nv := by
  have hname := fun n => (nsStep_ext d pri system nv n).1
  unfold Model.merged
  refine ⟨fun x hx => ?_, fun nn hnn => ?_⟩
  · rcases mem_mergeBy.mp hx with ⟨y, hy, rfl⟩ | ⟨hmem, _⟩
    · rw [hname]
      rcases ha.2 y hy with hacc | ⟨nn, hnn, hnnid, hents⟩
      · exact Or.inl (hacc.of_name (hname y))
      · refine Or.inr ⟨nn, hnn, ?_⟩
        rw [nsStep_ok_some hnn hnnid hents]
        exact Ns.merged_settled pri d hd y nn (hm.2.2.2 y hy) (hnv.2.2 nn (List.mem_of_find?_eq_some hnn))
          (find?_name_some hnn).2 hnnid hents
    · exact Or.inr ⟨x, find?_self_of_nodup hnv.1 hmem, Ns.Settled.refl x (hnv.2.2 x hmem)⟩
  · exact mem_names_mergeBy hname (Or.inr (List.mem_map_of_mem hnn))

theorem nsStep_congr {d d' : Defects} {pri pri' : List Key} {system : Bool} {nv : Model} {n : Ns}
    (ha : nsAccepted d system nv n) (ha' : nsAccepted d' system nv n)
    (hE : ∀ nn, nv.nss.find? (·.name == n.name) = some nn → ∀ e ∈ n.ents, ∀ ne, nn.ents.find? (·.name == e.name) = some ne →
      e.merged d pri nn.name ne = e.merged d' pri' nn.name ne) :
    (nsStep d pri system nv n).1 = (nsStep d' pri' system nv n).1 := by
  rcases ha with ⟨hf, h⟩ | ⟨nn, hf, hid, hents⟩
  · rw [nsStep_ok_none hf h, nsStep_ok_none hf h]
  · obtain ⟨nn', hf', _, hents'⟩ := ha'.resolve_left fun h => nomatch hf.symm.trans h.1
    cases hf.symm.trans hf'
    rw [nsStep_ok_some hf hid hents, nsStep_ok_some hf hid hents']
    unfold Ns.merged
    rw [mergeBy_congr _ fun e he => ?_]
    obtain ⟨ne, hfe, hk, hacc⟩ := hents e he
    obtain ⟨ne', hfe', _, hacc'⟩ := hents' e he
    rw [hfe] at hfe'; cases hfe'
    rw [entStep_ok hfe hk hacc, entStep_ok hfe hk hacc']
    exact hE nn hf e he ne hfe

theorem Model.merged_congr {d d' : Defects} {pri pri' : List Key} {system : Bool} {m nv : Model}
    (ha : updAccepted d system m nv) (ha' : updAccepted d' system m nv)
    (hE : ∀ n ∈ m.nss, ∀ nn, nv.nss.find? (·.name == n.name) = some nn → ∀ e ∈ n.ents, ∀ ne,
      nn.ents.find? (·.name == e.name) = some ne → e.merged d pri nn.name ne = e.merged d' pri' nn.name ne) :
    Model.merged d pri system m nv = Model.merged d' pri' system m nv := by
  unfold Model.merged
  rw [mergeBy_congr _ fun n hn => nsStep_congr (ha.2 n hn) (ha'.2 n hn) (hE n hn)]

theorem applyV_none_iff (d : Defects) (pri : List Key) (system : Bool) (m : Model) (v : Version) :
    (applyV d pri system m v).2 = none ↔
      ∃ nv, parse (if system then 0 else 1) v = .ok nv ∧ updAccepted d system m nv := by
  unfold applyV
  cases parse (if system then 0 else 1) v with
  | error e => exact ⟨nofun, fun ⟨_, h, _⟩ => nomatch h⟩
  | ok nv =>
    exact (updateWith_none_iff d pri system m nv).trans ⟨fun h => ⟨nv, rfl, h⟩, fun ⟨_, h, ha⟩ => by cases h; exact ha⟩

theorem applyV_of_accepted {d : Defects} {pri : List Key} {system : Bool} {m nv : Model} {v : Version}
    (hp : parse (if system then 0 else 1) v = .ok nv) (hacc : updAccepted d system m nv) :
    applyV d pri system m v = (Model.merged d pri system m nv, none) := by
  unfold applyV; rw [hp]; exact updateWith_ok d pri system m nv hacc

theorem applyV_ok {d : Defects} {pri : List Key} {system : Bool} {m : Model} {v : Version}
    (h : (applyV d pri system m v).2 = none) :
    ∃ nv, parse (if system then 0 else 1) v = .ok nv ∧ NssWFp (if system then 0 else 1) nv.nss ∧
      updAccepted d system m nv ∧ applyV d pri system m v = (Model.merged d pri system m nv, none) := by
  obtain ⟨nv, hp, hacc⟩ := (applyV_none_iff d pri system m v).mp h
  exact ⟨nv, hp, parse_wf _ v nv hp, hacc, applyV_of_accepted hp hacc⟩

theorem applyV_refused {d : Defects} (hd : d.partialRefusal = false) {pri : List Key} {system : Bool} {m : Model} {v : Version}
    {e : Err} (h : (applyV d pri system m v).2 = some e) : (applyV d pri system m v).1 = m := by
  unfold applyV at h ⊢
  split
  · rfl
  · rename_i nv hp
    rw [hp] at h
    simp only at h
    cases hg : nsGuard system nv
    · unfold nsGuard at hg
      unfold updateWith at h ⊢
      simp only [hg, Bool.false_eq_true, if_false] at h ⊢
      split
      · simp [hd]
      · rename_i hnone; rw [hnone] at h; cases h
    · rw [updateWith_of_guard hg]

theorem applyV_wf (d : Defects) (hd : d.hashOrderIds = false) (hp : d.partialRefusal = false) (pri : List Key)
    (system : Bool) (m : Model) (v : Version) (hm : m.WF) : (applyV d pri system m v).1.WF := by
  cases hr : (applyV d pri system m v).2 with
  | some e => rw [applyV_refused hp hr]; exact hm
  | none =>
    obtain ⟨nv, _, hnv, hacc, heq⟩ := applyV_ok hr
    rw [heq]
    exact Model.merged_wf pri d hd system m nv hm hnv hacc

theorem applyV_pri (d : Defects) (hd : d.hashOrderIds = false) (hp : d.partialRefusal = false) (pri pri' : List Key)
    (system : Bool) (m : Model) (v : Version) :
    (applyV d pri system m v).1 = (applyV d pri' system m v).1 ∧
    ((applyV d pri system m v).2 = none ↔ (applyV d pri' system m v).2 = none) := by
  have hiff := (applyV_none_iff d pri system m v).trans (applyV_none_iff d pri' system m v).symm
  refine ⟨?_, hiff⟩
  cases h1 : (applyV d pri system m v).2 with
  | none =>
    obtain ⟨nv, hpv, hacc⟩ := (applyV_none_iff d pri system m v).mp h1
    rw [applyV_of_accepted hpv hacc, applyV_of_accepted hpv hacc]
    exact Model.merged_congr hacc hacc fun _ _ _ _ _ _ _ _ => by unfold Entity.merged; rw [hd]; rfl
  | some e =>
    cases h2 : (applyV d pri' system m v).2 with
    | none => rw [hiff.mpr h2] at h1; cases h1
    | some e' => rw [applyV_refused hp h1, applyV_refused hp h2]

/-- an accepted version leaves the model well formed and settled for the parsed text; the ids of the text
    (`SettledFor.sameUserIds`) and "the same text again changes nothing" (`updateWith_settled`) both follow -/
theorem applyV_settled (d : Defects) (hd : d.hashOrderIds = false) {pri : List Key} {system : Bool} {m m' : Model} {v : Version}
    (hm : m.WF) (h : applyV d pri system m v = (m', none)) :
    ∃ nv, parse (if system then 0 else 1) v = .ok nv ∧ nsGuard system nv = false ∧ m'.WF ∧ m'.SettledFor system nv := by
  obtain ⟨nv, hp, hnv, hacc, heq⟩ := applyV_ok (congrArg Prod.snd h)
  cases h.symm.trans heq
  exact ⟨nv, hp, hacc.1, Model.merged_wf pri d hd system m nv hm hnv hacc, Model.merged_settled pri d hd system _ m nv hm hnv hacc⟩

theorem applyV_idem (d : Defects) (hd : d.hashOrderIds = false) (pri pri' : List Key) (system : Bool) (m m' : Model) (v : Version)
    (hm : m.WF) (h : applyV d pri system m v = (m', none)) : applyV d pri' system m' v = (m', none) := by
  obtain ⟨nv, hp, hg, _, hs⟩ := applyV_settled d hd hm h
  unfold applyV
  rw [hp]
  exact updateWith_settled d pri' system m' nv hg hs

theorem Model.Ext.findEntity {m m' : Model} (h : Model.Ext m m') {n e : String} {x : Entity}
    (hx : m.findEntity n e = some x) : ∃ x', m'.findEntity n e = some x' ∧ Entity.Ext x x' :=
  Found.bind (h n) (fun _ _ hy => hy.2.2 e) x hx

theorem Model.Ext.findField {m m' : Model} (h : Model.Ext m m') {n e f : String} {fd : Field}
    (hf : m.findField n e f = some fd) : ∃ fd', m'.findField n e f = some fd' ∧ fd'.short = fd.short ∧ fd'.ty = fd.ty :=
  Found.bind (fun _ hx => h.findEntity hx) (fun _ _ hx => hx.2.2 f) fd hf

theorem Model.Ext.nsId {m m' : Model} (h : Model.Ext m m') {n : String} {i : Nat} (hi : m.nsId n = some i) :
    m'.nsId n = some i :=
  Found.map (h n) (fun _ _ hy => hy.2.1) hi

theorem Model.Ext.entK {m m' : Model} (h : Model.Ext m m') {n e : String} {k : Nat} (hk : m.entK n e = some k) :
    m'.entK n e = some k :=
  Found.map (fun _ hx => h.findEntity hx) (fun _ _ hx => hx.2.1) hk

theorem Model.Ext.fieldShort {m m' : Model} (h : Model.Ext m m') {n e f : String} {s : Nat}
    (hs : m.fieldShort n e f = some s) : m'.fieldShort n e f = some s :=
  Found.map (fun _ hf => h.findField hf) (fun _ _ hf => hf.1) hs

theorem read_eq (m : Model) (n e f : String) (row : Row) :
    read m n e f row = (m.findField n e f).map (readField · row) := rfl

theorem read_preserved {m m' : Model} (h : Model.Ext m m') {n e f : String} {fd : Field}
    (hf : m.findField n e f = some fd) (row : Row) (val : String) (hv : row.lookup fd.short = some val) :
    read m n e f row = some (some val) ∧ read m' n e f row = some (some val) := by
  obtain ⟨fd', hfd', hsh, _⟩ := h.findField hf
  rw [read_eq, read_eq, hf, hfd']
  simp only [Option.map_some, readField, hsh, hv]
  exact ⟨trivial, trivial⟩

theorem lookup_none_of_keys {row : Row} {s : Nat} (h : ∀ p ∈ row, p.1 ≠ s) : row.lookup s = none :=
  List.lookup_eq_none_iff.mpr fun p hp => bne_iff_ne.mpr (h p hp).symm

theorem Model.WF.findEntity_wf {m : Model} (hm : m.WF) {n e : String} {x : Entity} (hx : m.findEntity n e = some x) : x.WF := by
  obtain ⟨y, hn, hx⟩ := Option.bind_eq_some_iff.mp hx
  exact (hm.2.2.2 y (List.mem_of_find?_eq_some hn)).2.2 x (List.mem_of_find?_eq_some hx)

/-- the row was written under entity `e`: its keys are short ids of fields of `e` -/
def rowKeysIn (e : Entity) (row : Row) : Prop := ∀ p ∈ row, ∃ g ∈ e.fields, g.short = p.1

theorem read_new_field {m m' : Model} (hm : m.WF) (hm' : m'.WF) (h : Model.Ext m m') {n e f : String} {ent : Entity} {fd' : Field}
    (he : m.findEntity n e = some ent) (hnew : ent.findField f = none) (hf' : m'.findField n e f = some fd')
    (row : Row) (hrow : rowKeysIn ent row) :
    read m' n e f row = some (fd'.dflt.map (·.tok)) := by
  obtain ⟨ent', hent', hext⟩ := h.findEntity he
  have hf'' : ent'.findField f = some fd' := by unfold Model.findField at hf'; rw [hent'] at hf'; exact hf'
  obtain ⟨hfdm, hfdn⟩ := find?_name_some hf''
  have hnone : row.lookup fd'.short = none := lookup_none_of_keys fun p hp heq => by
    obtain ⟨g, hg, hgs⟩ := hrow p hp
    obtain ⟨g', hg', hsh, _⟩ := hext.2.2 g.name g
      (find?_self_of_nodup (hm.findEntity_wf he).1 hg)
    obtain ⟨hg'm, hg'n⟩ := find?_name_some hg'
    -- `g'` carries the short id of `fd'`, so it is `fd'`: then `f` would have been a field of `ent`
    cases PosFrom_eq_of_pos_eq (hm'.findEntity_wf hent').2 hg'm hfdm
      (by rw [hsh, hgs, heq])
    exact List.find?_eq_none.mp hnew g hg (beq_iff_eq.mpr (hg'n.symm.trans hfdn))
  rw [read_eq, hf']
  show some (readField fd' row) = _
  unfold readField
  rw [hnone]

theorem runSteps_induct (d : Defects) (P : Model → Prop) (hP : ∀ pri sys m v, P m → P (applyV d pri sys m v).1)
    (m : Model) (steps : List Step) (hm : P m) : P (runSteps d m steps) := by
  induction steps generalizing m with
  | nil => exact hm
  | cons s rest ih =>
    obtain ⟨sys, pri, v⟩ := s
    exact ih _ (hP pri sys m v hm)

theorem runSteps_ext (d : Defects) (m : Model) (steps : List Step) : Model.Ext m (runSteps d m steps) :=
  runSteps_induct d (Model.Ext m) (fun pri sys m' v h => h.trans (applyV_ext d pri sys m' v)) m steps (Model.Ext.refl m)

theorem runSteps_wf (d : Defects) (hd : d.hashOrderIds = false) (hp : d.partialRefusal = false) (m : Model)
    (steps : List Step) (hm : m.WF) : (runSteps d m steps).WF :=
  runSteps_induct d Model.WF (fun pri sys m v => applyV_wf d hd hp pri sys m v) m steps hm

theorem runSteps_accepted (d : Defects) (hp : d.partialRefusal = false) (m : Model) (steps : List Step) :
    runSteps d m steps = runSteps d m (acceptedSteps d m steps) := by
  induction steps generalizing m with
  | nil => rfl
  | cons s rest ih =>
    obtain ⟨sys, pri, v⟩ := s
    simp only [runSteps, acceptedSteps]
    cases hr : (applyV d pri sys m v).2 with
    | none => simp only [runSteps]; exact ih _
    | some e => simp only; rw [applyV_refused hp hr]; exact ih m

def sameVersions (a b : List Step) : Prop := a.map (fun s => (s.1, s.2.2)) = b.map (fun s => (s.1, s.2.2))

theorem runSteps_pri (d : Defects) (hd : d.hashOrderIds = false) (hp : d.partialRefusal = false) (m : Model)
    (a b : List Step) (h : sameVersions a b) : runSteps d m a = runSteps d m b := by
  induction a generalizing m b with
  | nil => cases b with
    | nil => rfl
    | cons _ _ => simp [sameVersions] at h
  | cons s rest ih =>
    cases b with
    | nil => simp [sameVersions] at h
    | cons t rest' =>
      obtain ⟨sys, pri, v⟩ := s
      obtain ⟨sys', pri', v'⟩ := t
      simp only [sameVersions, List.map_cons, List.cons.injEq, Prod.mk.injEq] at h
      obtain ⟨⟨rfl, rfl⟩, h2⟩ := h
      simp only [runSteps]
      rw [(applyV_pri d hd hp pri pri' sys m v).1]
      exact ih _ rest' h2

theorem loadAndUpdate_restart (d : Defects) (hd : d.hashOrderIds = false) (pri pri' : List Key) (sysV : Version)
    (stored : Option Model) (v : Version) (m' : Model) (hs : (stored.getD Model.empty).WF)
    (h : loadAndUpdate d pri sysV stored v = (m', none)) :
    loadAndUpdate d pri' sysV (some m') v = (m', none) := by
  unfold loadAndUpdate at h
  simp only [updateSystem_eq_applyV] at h
  split at h
  · cases h
  · rename_i m1 h1
    rw [update_eq_applyV] at h
    obtain ⟨nvS, hpS, hgS, hm1, hset⟩ := applyV_settled d hd hs h1
    obtain ⟨nvU, _, _, haccU, heqU⟩ := applyV_ok (congrArg Prod.snd h)
    have heqU : m' = Model.merged d pri false m1 nvU := congrArg Prod.fst (h.symm.trans heqU)
    have hsys : applyV d pri' true m' sysV = (m', none) := by
      unfold applyV
      rw [hpS, heqU]
      unfold Model.merged
      refine updateWith_settled d pri' true _ nvS hgS ⟨fun x hx => ?_, fun nn hnn => ?_⟩
      · rcases mem_mergeBy.mp hx with ⟨y, hy, rfl⟩ | ⟨hx, _⟩
        · rw [(nsStep_ext d pri false nvU y).1]
          rcases hset.1 y hy with h | ⟨nn, hnn, hsett⟩
          · exact Or.inl (h.of_name (nsStep_ext d pri false nvU y).1)
          · -- `y` is the namespace `sys`: the user version left it as the system version made it
            obtain ⟨hnnm, hnny⟩ := find?_name_some hnn
            have hys : y.name = sysNs := hnny.symm.trans (guard_true_names hgS nn hnnm)
            rw [nsStep_ok_none (find?_sys_none haccU.1 hys) (Or.inr hys)]
            exact Or.inr ⟨nn, hnn, hsett⟩
        · -- a namespace the user version brought is not named `sys`
          refine Or.inl ⟨List.find?_eq_none.mpr fun z hz hzx => ?_, Or.inl rfl⟩
          exact guard_false_names haccU.1 x hx ((beq_iff_eq.mp hzx).symm.trans (guard_true_names hgS z hz))
      · exact mem_names_mergeBy (fun n => (nsStep_ext d pri false nvU n).1) (Or.inl (hset.2 nn hnn))
    unfold loadAndUpdate
    simp only [Option.getD_some, updateSystem_eq_applyV, hsys, update_eq_applyV]
    exact applyV_idem d hd pri pri' false m1 m' v hm1 h

theorem Inst.start_snd (d : Defects) (pri : List Key) (sysV : Version) (s : Inst) (v : Version) :
    (s.start d pri sysV v).2 = (loadAndUpdate d pri sysV s.stored v).2 := by
  unfold Inst.start
  rcases loadAndUpdate d pri sysV s.stored v with ⟨m, _ | e⟩ <;> rfl

/-- a system version only brings the namespace `sys`, a user version never names it -/
theorem loadAndUpdate_fresh (d : Defects) (pri : List Key) (sysV v : Version)
    (hS : (updateSystem d pri Model.empty sysV).2 = none) (hU : (update d pri Model.empty v).2 = none) :
    (loadAndUpdate d pri sysV none v).2 = none := by
  rw [updateSystem_eq_applyV] at hS
  rw [update_eq_applyV] at hU
  obtain ⟨nvS, _, _, haccS, heqS⟩ := applyV_ok hS
  obtain ⟨nvU, hpU, _, haccU, _⟩ := applyV_ok hU
  simp only [loadAndUpdate, Option.getD_none, updateSystem_eq_applyV, update_eq_applyV]
  rw [heqS]
  show (applyV d pri false _ v).2 = none
  unfold applyV
  rw [hpU]
  refine (updateWith_none_iff d pri false _ nvU).mpr ⟨haccU.1, fun n hn => ?_⟩
  have hname : n.name = sysNs := by
    rcases mem_mergeBy.mp hn with ⟨_, h, _⟩ | ⟨hn, _⟩
    · cases h
    · exact guard_true_names haccS.1 n hn
  exact Or.inl ⟨find?_sys_none haccU.1 hname, Or.inr hname⟩

def Defects.fixedOrder (d : Defects) : Defects := { d with hashOrderIds := false, partialRefusal := false }

theorem Entity.merged_single (d : Defects) (pri : List Key) (nsn : String) (e ne : Entity) (h : (e.fresh ne).length ≤ 1) :
    e.merged d pri nsn ne = e.merged d.fixedOrder pri nsn ne := by
  unfold Entity.merged
  rw [prio_of_length_le_one _ _ _ h, ite_self]
  rfl

theorem applyV_single (d : Defects) (pri : List Key) (system : Bool) (m m' : Model) (v : Version)
    (hg : oneFreshGuard system m v = true) (h : applyV d pri system m v = (m', none)) :
    applyV d.fixedOrder pri system m v = (m', none) := by
  obtain ⟨nv, hp, _, hacc, heq⟩ := applyV_ok (congrArg Prod.snd h)
  cases h.symm.trans heq
  -- acceptance does not look at the two switches `fixedOrder` clears
  have hacc' : updAccepted d.fixedOrder system m nv := hacc
  unfold oneFreshGuard atMostOneFresh at hg
  rw [hp] at hg
  rw [applyV_of_accepted hp hacc']
  refine congrArg (·, none) (Model.merged_congr hacc hacc' fun n hn nn hf e he ne hfe => ?_).symm
  have hn1 := List.all_eq_true.mp hg n hn
  rw [hf] at hn1
  have he1 := List.all_eq_true.mp hn1 e he
  rw [hfe] at he1
  exact Entity.merged_single d pri nn.name e ne (by simpa using he1)

theorem freshCheck_none {nf : Field} (h : freshCheck nf = none) : (nf.nullable || nf.dflt.isSome || nf.ty.isRef) = true := by
  unfold freshCheck at h
  split at h
  · assumption
  · cases h

/-- a row that may lack field `f` (it passes with `a`: nullable, or `b`: has a default) still passes after a merge that
    `checkField` let through (`c`, `e`: nullable / has a default afterwards; `r`: a relation) -/
theorem conforms_bool : ∀ a b c e r : Bool, ((a || b) && !c && !e && !r) = false → (r || (a || b)) = true →
    (r || (c || e)) = true := by
  decide

theorem Entity.merged_conforms (vok : FType → String → Bool) (pri : List Key) (nsn : String) (d : Defects)
    (hd : d.hashOrderIds = false) (hdd : d.defaultDropAccepted = false) (e ne : Entity)
    (he : e.WF) (hne : ne.WF) (ha : e.accepts d ne) (row : Row) (hrow : rowKeysIn e row)
    (hc : rowConforms vok e row = true) : rowConforms vok (e.merged d pri nsn ne) row = true := by
  obtain ⟨hfields, _, hwf⟩ := Entity.merged_fields pri nsn d hd e ne he hne ha
  unfold rowConforms at hc ⊢
  rw [List.all_eq_true] at hc ⊢
  rw [hfields, mergeBy]
  intro f' hf'
  rcases List.mem_append.mp hf' with hf' | hf'
  · obtain ⟨f, hf, rfl⟩ := List.mem_map.mp hf'
    have hcf := hc f hf
    obtain ⟨nf, hfind, _, _, hB⟩ := checkField_none (ha.1 f hf)
    rw [mergeField_ty, mergeField_short]
    cases hl : row.lookup f.short with
    | some v => rw [hl] at hcf; exact hcf
    | none =>
      rw [hl] at hcf
      rw [hdd, ← Option.not_isSome] at hB
      rw [mergeField_of_find hfind]
      exact conforms_bool _ _ _ _ _ hB hcf
  · -- a new field: the row cannot hold a value for it, and the update required a default or nullability
    have hnone : row.lookup f'.short = none := lookup_none_of_keys fun p hp heq => by
      obtain ⟨g, hg, hgs⟩ := hrow p hp
      have h1 := (PosFrom_mem he.2 hg).2
      have h2 := (PosFrom_mem ((PosFrom_append ..).mp (hfields ▸ hwf.2)).2 hf').1
      rw [List.length_map] at h2
      omega
    rw [hnone, Bool.or_comm]
    exact freshCheck_none (ha.2 f' hf')

theorem Entity.merged_keysIn (pri : List Key) (nsn : String) (d : Defects) (e ne : Entity) (row : Row) (hrow : rowKeysIn e row) :
    rowKeysIn (e.merged d pri nsn ne) row := by
  intro p hp
  obtain ⟨g, hg, hgs⟩ := hrow p hp
  refine ⟨mergeField g ne.fields, ?_, by rw [mergeField_short]; exact hgs⟩
  simp only [Entity.merged, List.mem_append, List.mem_map]
  exact Or.inl ⟨g, hg, rfl⟩

theorem findEntity_merged (pri : List Key) (d : Defects) (system : Bool) (m nv : Model) (ha : updAccepted d system m nv)
    (n ename : String) (e : Entity) (he : m.findEntity n ename = some e) :
    (Model.merged d pri system m nv).findEntity n ename = some e ∨
    ∃ nn ne, nn ∈ nv.nss ∧ ne ∈ nn.ents ∧ ne.k = e.k ∧ e.accepts d ne ∧
      (Model.merged d pri system m nv).findEntity n ename = some (e.merged d pri nn.name ne) := by
  obtain ⟨y, hn, he⟩ := Option.bind_eq_some_iff.mp he
  have hfind : (Model.merged d pri system m nv).findNs n = some (nsStep d pri system nv y).1 := by
    unfold Model.findNs Model.merged
    rw [find?_mergeBy (fun (z : Ns) => z.name) _ (fun z => (nsStep_ext d pri system nv z).1), show m.nss.find? _ = _ from hn]
  unfold Model.findEntity
  rw [hfind]
  rcases ha.2 y (List.mem_of_find?_eq_some hn) with ⟨hnn, hs⟩ | ⟨nn, hnn, hnnid, hents⟩
  · rw [nsStep_ok_none hnn hs]
    exact Or.inl he
  · obtain ⟨ne, hf, hk, hacc'⟩ := hents e (List.mem_of_find?_eq_some he)
    refine Or.inr ⟨nn, ne, List.mem_of_find?_eq_some hnn, List.mem_of_find?_eq_some hf, hk, hacc', ?_⟩
    rw [nsStep_ok_some hnn hnnid hents]
    show (Ns.merged d pri y nn).findEnt ename = _
    unfold Ns.findEnt Ns.merged
    rw [find?_mergeBy (fun (z : Entity) => z.name) _ (fun z => (entStep_ext d pri nn z).1), show y.ents.find? _ = _ from he]
    dsimp only
    rw [entStep_ok hf hk hacc']

theorem applyV_conforms (vok : FType → String → Bool) (d : Defects) (hd : d.hashOrderIds = false) (hp : d.partialRefusal = false)
    (hdd : d.defaultDropAccepted = false) (pri : List Key) (system : Bool) (m : Model) (v : Version) (hm : m.WF)
    (n ename : String) (e : Entity) (he : m.findEntity n ename = some e) (row : Row)
    (hrow : rowKeysIn e row) (hc : rowConforms vok e row = true) :
    ∃ e', (applyV d pri system m v).1.findEntity n ename = some e' ∧ rowKeysIn e' row ∧ rowConforms vok e' row = true := by
  cases hr : (applyV d pri system m v).2 with
  | some err => rw [applyV_refused hp hr]; exact ⟨e, he, hrow, hc⟩
  | none =>
    obtain ⟨nv, _, hnv, hacc, heq⟩ := applyV_ok hr
    rw [heq]
    rcases findEntity_merged pri d system m nv hacc n ename e he with h1 | ⟨nn, ne, hnn, hne, _, hacc', h1⟩
    · exact ⟨e, h1, hrow, hc⟩
    · refine ⟨_, h1, Entity.merged_keysIn pri nn.name d e ne row hrow, ?_⟩
      exact Entity.merged_conforms vok pri nn.name d hd hdd e ne (hm.findEntity_wf he) (hnv.2.2 nn hnn |>.2.2 ne hne) hacc' row hrow hc

theorem runSteps_conforms (vok : FType → String → Bool) (m : Model) (steps : List Step) (hm : m.WF)
    (n ename : String) (e : Entity) (he : m.findEntity n ename = some e) (row : Row)
    (hrow : rowKeysIn e row) (hc : rowConforms vok e row = true) :
    ∃ e', (runSteps Defects.none m steps).findEntity n ename = some e' ∧ rowConforms vok e' row = true :=
  have ⟨_, e', h1, _, h3⟩ := runSteps_induct Defects.none
    (fun m' => m'.WF ∧ ∃ e', m'.findEntity n ename = some e' ∧ rowKeysIn e' row ∧ rowConforms vok e' row = true)
    (fun pri sys m v ⟨hw, e, he, hr, hc⟩ => ⟨applyV_wf Defects.none rfl rfl pri sys m v hw,
      applyV_conforms vok Defects.none rfl rfl rfl pri sys m v hw n ename e he row hr hc⟩)
    m steps ⟨hm, e, he, hrow, hc⟩
  ⟨e', h1, h3⟩

abbrev RevEntry := EShort × String × String

theorem lookup_filter_ne (rev : List RevEntry) {a k : EShort} (h : k ≠ a) :
    (rev.filter fun y => y.1 != a).lookup k = rev.lookup k := by
  induction rev with
  | nil => rfl
  | cons y ys ih =>
    obtain ⟨c, v⟩ := y
    by_cases hc : c = a
    · rw [List.filter_cons_of_neg (by simp [hc]), ih, List.lookup_cons, beq_false_of_ne (hc ▸ h)]
    · rw [List.filter_cons_of_pos (by simpa using hc), List.lookup_cons, List.lookup_cons, ih]

theorem lookup_revInsert (rev : List RevEntry) (x : RevEntry) (k : EShort) :
    (revInsert rev x).lookup k = if k = x.1 then some x.2 else rev.lookup k := by
  obtain ⟨a, b⟩ := x
  unfold revInsert
  rw [List.lookup_cons]
  by_cases h : k = a
  · rw [if_pos h, beq_iff_eq.mpr h]
  · rw [if_neg h, beq_false_of_ne h, lookup_filter_ne rev h]

theorem lookup_foldl_not_mem (rev : List RevEntry) (xs : List RevEntry) (k : EShort) (h : ∀ x ∈ xs, x.1 ≠ k) :
    (xs.foldl revInsert rev).lookup k = rev.lookup k := by
  induction xs generalizing rev with
  | nil => rfl
  | cons x xs ih =>
    rw [List.foldl_cons, ih _ fun y hy => h y (List.mem_cons_of_mem _ hy), lookup_revInsert,
      if_neg (h x List.mem_cons_self).symm]

theorem lookup_foldl_mem (rev : List RevEntry) (xs : List RevEntry) (x : RevEntry) (hx : x ∈ xs)
    (hd : ∀ y ∈ xs, y.1 = x.1 → y = x) : (xs.foldl revInsert rev).lookup x.1 = some x.2 := by
  induction xs generalizing rev with
  | nil => simp at hx
  | cons y ys ih =>
    simp only [List.foldl_cons]
    by_cases hmem : x ∈ ys
    · exact ih _ hmem (fun z hz => hd z (List.mem_cons_of_mem _ hz))
    · -- `x` is the head and no later entry has its key
      cases (List.mem_cons.mp hx).resolve_right hmem
      rw [lookup_foldl_not_mem _ _ _ fun z hz heq => hmem (hd z (List.mem_cons_of_mem _ hz) heq ▸ hz),
        lookup_revInsert, if_pos rfl]

theorem mem_addedEntities {m m' : Model} {x : RevEntry} :
    x ∈ addedEntities m m' ↔
      ∃ n' ∈ m'.nss, ∃ e' ∈ n'.ents, x = (entShort n' e', n'.name, e'.name) ∧ m.findEntity n'.name e'.name = none := by
  simp only [addedEntities, List.mem_flatMap, List.mem_filterMap]
  refine exists_congr fun n' => and_congr_right fun _ => exists_congr fun e' => and_congr_right fun _ => ?_
  cases m.findEntity n'.name e'.name <;> simp [eq_comm]

theorem apply_revOk (d : Defects) (hd : d.hashOrderIds = false) (hp : d.partialRefusal = false) (pri : List Key) (system : Bool)
    (dm : DataModel) (v : Version) (hm : dm.core.WF) (hr : dm.RevOk) : (dm.apply d pri system v).1.RevOk := by
  have hext := applyV_ext d pri system dm.core v
  have hwf := applyV_wf d hd hp pri system dm.core v hm
  intro n' hn' e' he'
  simp only [DataModel.apply, DataModel.nameFor] at hn' he' ⊢
  obtain ⟨_, _, hinj⟩ := hwf.distinct
  cases hf : dm.core.findEntity n'.name e'.name with
  | none =>
    -- a new entity: `update_with` inserted its entry
    refine lookup_foldl_mem dm.rev _ (entShort n' e', n'.name, e'.name) (mem_addedEntities.mpr ⟨n', hn', e', he', rfl, hf⟩)
      fun y hy heq => ?_
    obtain ⟨n'', hn'', e'', he'', rfl, _⟩ := mem_addedEntities.mp hy
    obtain ⟨rfl, rfl⟩ := hinj n'' hn'' n' hn' e'' he'' e' he' heq
    rfl
  | some e0 =>
    -- an entity that was there: same short name, its entry is untouched
    obtain ⟨n0, hn0, he0⟩ := Option.bind_eq_some_iff.mp hf
    obtain ⟨hn0m, hn0n⟩ := find?_name_some hn0
    obtain ⟨he0m, he0n⟩ := find?_name_some (show n0.ents.find? _ = _ from he0)
    obtain ⟨y', hy', hyext⟩ := hext n'.name n0 hn0
    cases (find?_self_of_nodup hwf.1 hn').symm.trans hy'
    obtain ⟨e1, he1, he1ext⟩ := hyext.2.2 e'.name e0 he0
    cases (find?_self_of_nodup (hwf.2.2.2 n' hn').1 he').symm.trans he1
    have hshort : entShort n0 e0 = entShort n' e' := by
      unfold entShort
      rw [hyext.2.1, hn0n, he1ext.2.1]
    rw [lookup_foldl_not_mem, ← hshort, ← hn0n, ← he0n]
    · exact hr n0 hn0m e0 he0m
    · intro x hx heq
      obtain ⟨n'', hn'', e'', he'', rfl, hnone⟩ := mem_addedEntities.mp hx
      obtain ⟨rfl, rfl⟩ := hinj n'' hn'' n' hn' e'' he'' e' he' heq
      rw [hf] at hnone; cases hnone

theorem revOk_empty : DataModel.empty.RevOk := nofun

end Discret.DM
