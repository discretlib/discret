import DiscretModel.Lemmas.Room
import DiscretModel.Model.LocalWrite
/-
Lemmas about the local write path (`Model/LocalWrite.lean`), used by C01 and C12. The right check of one change is
brought to a boolean, `changeOk`, over `canB` (the room's decision, `false` for an unknown room);
`validateChange_ok_iff` ties it to `validateChange`, `mutate_accepted` to a whole mutation, and everything else reasons
about `changeOk`.
-/
namespace Discret.LocalWrite
open Discret.Room

def Allowed (rooms : List Room) (caller : Key) (now : Int) (entity : Ent) (rt : RightType) (rid : Id) : Prop :=
  ∃ room, getRoom rooms rid = some room ∧ room.can caller entity now rt = true

/-- the change passed the right check: the needed right (own-rows when the caller creates the row or is the
    author of the stored row, all-rows otherwise) is granted at `now` in the room the row is in after the
    change, and in the room it was in before when that is another room -/
structure Authorised (rooms : List Room) (caller : Key) (now : Int) (c : Change) : Prop where
  enters : ∀ rid, c.roomId = some rid → Allowed rooms caller now c.entity (needed c caller) rid
  leaves : ∀ o rid0 rid, c.old = some o → o.room = some rid0 → c.roomId = some rid → rid0 ≠ rid →
    Allowed rooms caller now c.entity (needed c caller) rid0

def NoMove (c : Change) : Prop := ∀ o rid0 rid, c.old = some o → o.room = some rid0 → c.roomId = some rid → rid0 = rid

section
variable {df : Defects} {rooms : List Room} {caller : Key} {now : Int} {c : Change} {rid : Id}

def canB (rooms : List Room) (rid : Id) (k : Key) (e : Ent) (d : Int) (rt : RightType) : Bool :=
  match getRoom rooms rid with
  | some rm => rm.can k e d rt
  | none => false

theorem canB_some {room : Room} (h : getRoom rooms rid = some room) (k : Key) (e : Ent) (d : Int) (rt : RightType) :
    canB rooms rid k e d rt = room.can k e d rt := by
  unfold canB; rw [h]

theorem canB_none (h : getRoom rooms rid = none) (k : Key) (e : Ent) (d : Int) (rt : RightType) :
    canB rooms rid k e d rt = false := by
  unfold canB; rw [h]

theorem canB_iff {k : Key} {e : Ent} {d : Int} {rt : RightType} :
    canB rooms rid k e d rt = true ↔ Allowed rooms k d e rt rid := by
  unfold canB Allowed
  cases getRoom rooms rid <;> simp

/-- the check on the room a row leaves for `rid`; with the defect #2 it is looked up under the id `rid` -/
def leavesOk (df : Defects) (rooms : List Room) (caller : Key) (now : Int) (c : Change) (rid : Id) : Bool :=
  match c.old with
  | none => true
  | some o =>
    match o.room with
    | none => true
    | some oldRid =>
      oldRid = rid || canB rooms (if df.oldRoomLookup then rid else oldRid) caller c.entity now (needed c caller)

def rowOk (df : Defects) (rooms : List Room) (caller : Key) (now : Int) (c : Change) (rid : Id) : Bool :=
  leavesOk df rooms caller now c rid && canB rooms rid caller c.entity now (needed c caller)

/-- the whole check of a change that writes into room `rid`: the row rule, and no refusal for want of the all-rows
    right when a reference signed by somebody else is removed -/
def changeOk (df : Defects) (rooms : List Room) (caller : Key) (now : Int) (c : Change) (rid : Id) : Bool :=
  rowOk df rooms caller now c rid &&
    !(!df.refRemovalRightOnRowAuthor && c.edgeDels.any (fun e => e.author != caller) &&
      !canB rooms rid caller c.entity now .mutateAll)

/-- the deletion record of a removed reference (`EdgeDeletionEntry::build`) -/
def tombOf (rid : Id) (caller : Key) (now : Int) (e : EdgeRow) : EdgeTomb :=
  { room := rid, src := e.src, label := e.label, dest := e.dest, cdate := e.cdate, ddate := now, author := caller }

theorem guarded_ok_iff {ε α : Type} {b g : Bool} {e e' : ε} {x t : α} :
    (if b = true then (if g = true then Except.error e else .ok x) else .error e') = .ok t ↔
      (b && !g) = true ∧ t = x := by
  cases b <;> cases g <;> simp [eq_comm]

/-- an operation that succeeds exactly when `b` holds, with the result `v` -/
theorem toBool_of_ok_iff {ε α : Type} {x : Except ε α} {b : Bool} {v : α} (h : ∀ t, x = .ok t ↔ b = true ∧ t = v) :
    x.toBool = b := by
  cases x with
  | ok t => exact ((h t).mp rfl).1.symm
  | error e =>
    cases b with
    | false => rfl
    | true => exact nomatch (h v).mpr ⟨rfl, rfl⟩

theorem validateChange_ok_iff (hroom : c.roomId = some rid) {t : List EdgeTomb} :
    validateChange df rooms caller now c = .ok t ↔
      changeOk df rooms caller now c rid = true ∧ t = c.edgeDels.map (tombOf rid caller now) := by
  unfold validateChange changeOk rowOk leavesOk canB
  rw [hroom]
  dsimp only
  cases getRoom rooms rid with
  | none => simp only [Bool.and_false, Bool.false_and, reduceCtorEq, Bool.false_eq_true, false_and]
  | some room =>
    dsimp only
    cases c.old with
    | none => rw [Bool.true_and]; exact guarded_ok_iff
    | some o =>
      dsimp only
      cases o.room with
      | none => rw [Bool.true_and]; exact guarded_ok_iff
      | some oldRid =>
        dsimp only
        by_cases heq : oldRid = rid
        · simp only [heq, if_true, decide_true, Bool.true_or, Bool.true_and]; exact guarded_ok_iff
        · simp only [heq, if_false, decide_false, Bool.false_or]
          cases getRoom rooms (if df.oldRoomLookup = true then rid else oldRid) with
          | none => simp only [Bool.false_and, reduceCtorEq, Bool.false_eq_true, false_and]
          | some oldRoom =>
            dsimp only
            cases oldRoom.can caller c.entity now (needed c caller) with
            | false => simp only [Bool.false_and, reduceCtorEq, Bool.false_eq_true, false_and, if_false]
            | true => simp only [Bool.true_and, if_true]; exact guarded_ok_iff

theorem rowOk_enters (h : rowOk df rooms caller now c rid = true) :
    canB rooms rid caller c.entity now (needed c caller) = true :=
  (Bool.and_eq_true_iff.mp h).2

theorem rowOk_leaves (h : rowOk df rooms caller now c rid = true) {o : Row} {rid0 : Id} (ho : c.old = some o)
    (hor : o.room = some rid0) (hne : rid0 ≠ rid) :
    canB rooms (if df.oldRoomLookup then rid else rid0) caller c.entity now (needed c caller) = true := by
  have hl : leavesOk df rooms caller now c rid = true := (Bool.and_eq_true_iff.mp h).1
  simpa only [leavesOk, ho, hor, hne, decide_false, Bool.false_or] using hl

theorem changeOk_row (h : changeOk df rooms caller now c rid = true) : rowOk df rooms caller now c rid = true :=
  (Bool.and_eq_true_iff.mp h).1

/-- the row rule is the right check of `Authorised`, as long as the room a row leaves is looked up under its own id -/
theorem rowOk_authorised (hdf : df.oldRoomLookup = false ∨ NoMove c)
    (h : ∀ rid, c.roomId = some rid → rowOk df rooms caller now c rid = true) : Authorised rooms caller now c := by
  refine ⟨fun rid hroom => canB_iff.mp (rowOk_enters (h rid hroom)), fun o rid0 rid ho hor hroom hne => ?_⟩
  rcases hdf with hdf | hnm
  · have := rowOk_leaves (h rid hroom) ho hor hne
    rw [hdf] at this
    exact canB_iff.mp this
  · exact absurd (hnm o rid0 rid ho hor hroom) hne

end

section
variable {df : Defects} {rooms : List Room} {caller : Key} {now : Int}

theorem mutate_ok {db db' : Db} {m : Mut} (h : mutate df rooms db caller now m = .ok db') :
    ∃ cs l, plan db now m = .ok cs ∧ validateList df rooms caller now cs = .ok l ∧ db' = applyAll caller db l := by
  unfold mutate at h
  cases hp : plan db now m with
  | error e => rw [hp] at h; cases h
  | ok cs =>
    rw [hp] at h
    dsimp only at h
    cases hv : validateList df rooms caller now cs with
    | error e => rw [hv] at h; cases h
    | ok l => rw [hv] at h; cases h; exact ⟨cs, l, rfl, hv, rfl⟩

theorem validateList_ok {cs : List Change}
    {l : List (Change × List EdgeTomb)} (h : validateList df rooms caller now cs = .ok l) :
    l.map (·.1) = cs ∧
    ∀ ct ∈ l, (ct.1.node = none → ct.2 = []) ∧
      (ct.1.node ≠ none → (df.subNodesSkipped && ct.1.shadowed) = false →
        validateChange df rooms caller now ct.1 = .ok ct.2) := by
  induction cs generalizing l with
  | nil => cases h; exact ⟨rfl, fun _ hct => (nomatch hct)⟩
  | cons c t ih =>
    unfold validateList at h
    dsimp only at h
    split at h
    · cases h
    · rename_i tombs hone
      split at h
      · cases h
      · rename_i rest hrest
        cases h
        obtain ⟨hm, hall⟩ := ih hrest
        refine ⟨by rw [List.map_cons, hm], fun ct hct => ?_⟩
        rcases List.mem_cons.mp hct with rfl | hct
        · cases hn : c.node with
          | none => rw [hn] at hone; cases hone; exact ⟨fun _ => rfl, fun hne => absurd rfl hne⟩
          | some n =>
            rw [hn] at hone
            exact ⟨fun e => (nomatch e), fun _ (hs : (df.subNodesSkipped && c.shadowed) = false) => by
              rw [hs] at hone; exact hone⟩
        · exact hall ct hct

/-- an accepted mutation is its plan, checked change by change (those whose row is written, and that #1 does not
    skip), then written -/
theorem mutate_accepted {db db' : Db} {m : Mut} {cs : List Change} (hp : plan db now m = .ok cs)
    (h : mutate df rooms db caller now m = .ok db') :
    ∃ l, l.map (·.1) = cs ∧ db' = applyAll caller db l ∧
      ∀ c ∈ cs, c.node ≠ none → (df.subNodesSkipped && c.shadowed) = false → ∀ rid, c.roomId = some rid →
        changeOk df rooms caller now c rid = true := by
  obtain ⟨cs', l, hp', hv, hdb⟩ := mutate_ok h
  cases hp.symm.trans hp'
  obtain ⟨hmap, hall⟩ := validateList_ok hv
  refine ⟨l, hmap, hdb, fun c hc hne hs rid hroom => ?_⟩
  obtain ⟨ct, hct, rfl⟩ := List.mem_map.mp (hmap ▸ hc)
  exact ((validateChange_ok_iff hroom).mp ((hall ct hct).2 hne hs)).1

/-- `hskip`, `hmove`: the switches #1 and #2 are off, or the plan has none of the shapes they mishandle -/
theorem mutate_authorised {db db' : Db} {m : Mut} {cs : List Change} (hp : plan db now m = .ok cs)
    (hskip : df.subNodesSkipped = false ∨ ∀ c ∈ cs, c.shadowed = true → c.node = none)
    (hmove : df.oldRoomLookup = false ∨ ∀ c ∈ cs, NoMove c)
    (h : mutate df rooms db caller now m = .ok db') :
    ∃ l, l.map (·.1) = cs ∧ db' = applyAll caller db l ∧ ∀ c ∈ cs, c.node ≠ none → Authorised rooms caller now c := by
  obtain ⟨l, hmap, hdb, hok⟩ := mutate_accepted hp h
  refine ⟨l, hmap, hdb, fun c hc hne => ?_⟩
  have hs : (df.subNodesSkipped && c.shadowed) = false := by
    rcases hskip with h1 | h1
    · rw [h1]; rfl
    · cases hsh : c.shadowed with
      | false => exact Bool.and_false _
      | true => exact absurd (h1 c hc hsh) hne
  exact rowOk_authorised (hmove.imp_right fun h1 => h1 c hc) fun rid hroom => changeOk_row (hok c hc hne hs rid hroom)

end

section
variable {caller : Key} {db : Db}

/-- replace-or-append, the shape of every `upsert*` of the model -/
theorem mem_upsert {α : Type} {l : List α} {b : Bool} {p : α → Prop} [DecidablePred p] {a r : α}
    (h : r ∈ (if b then l.map (fun x => if p x then a else x) else l ++ [a])) : r ∈ l ∨ r = a := by
  cases b with
  | true =>
    obtain ⟨y, hy, rfl⟩ := List.mem_map.mp h
    by_cases hp : p y
    · exact Or.inr (if_pos hp)
    · exact Or.inl (by rw [if_neg hp]; exact hy)
  | false => exact (List.mem_append.mp h).imp_right fun h1 => List.mem_singleton.mp h1

theorem upsertRow_mem {rows : List Row} {x r : Row} (h : r ∈ upsertRow rows x) : r ∈ rows ∨ r = x :=
  mem_upsert h

theorem upsertEdge_mem {edges : List EdgeRow} {x e : EdgeRow} (h : e ∈ upsertEdge edges x) : e ∈ edges ∨ e = x :=
  mem_upsert h

theorem applyAll_rows {l : List (Change × List EdgeTomb)} {r : Row} (h : r ∈ (applyAll caller db l).rows) :
    r ∈ db.rows ∨ ∃ ct ∈ l, ∃ n, ct.1.node = some n ∧ r = { n with author := caller } := by
  refine foldl_new (step := applyChange caller) Db.rows
    (P := fun ct r => ∃ n, ct.1.node = some n ∧ r = { n with author := caller }) h fun db ct r h1 => ?_
  unfold applyChange at h1
  dsimp only at h1
  cases hn : ct.1.node with
  | none => rw [hn] at h1; exact Or.inl h1
  | some n => rw [hn] at h1; exact (upsertRow_mem h1).imp_right fun e => ⟨n, rfl, e⟩

theorem applyAll_edges {l : List (Change × List EdgeTomb)} {e : EdgeRow} (h : e ∈ (applyAll caller db l).edges) :
    e ∈ db.edges ∨ ∃ ct ∈ l, ∃ x ∈ ct.1.edgeIns, e = { x with author := caller } := by
  refine foldl_new (step := applyChange caller) Db.edges
    (P := fun ct e => ∃ x ∈ ct.1.edgeIns, e = { x with author := caller }) h fun db ct e h1 => ?_
  unfold applyChange at h1
  dsimp only at h1
  -- the removed references are filtered out, then the added ones are folded in
  exact (foldl_new (fun l => l) (P := fun x e => e = { x with author := caller }) h1
    fun _ _ _ h2 => upsertEdge_mem h2).imp_left fun h2 => (List.mem_filter.mp h2).1

end

section
variable {db : Db} {now : Int}

theorem getRow_id {handle : Nat} {entity : Ent} {row : Row} (h : db.getRow handle entity = some row) :
    row.id = handle ∧ row.entity = entity := by
  simpa using List.find?_some h

theorem planNode_ok {handle : Nat} {isNew : Bool} {entity : Ent} {room : Option Id} {val : Option Int} {touched : Bool}
    {rid : Option Id} {old node : Option Row}
    (h : planNode db now handle isNew entity room val touched = .ok (rid, old, node)) :
    (∀ n, node = some n → n.id = handle ∧ n.entity = entity ∧ n.room = rid) ∧
    (∀ o, old = some o → db.getRow handle entity = some o) ∧
    (touched = true → node ≠ none) := by
  unfold planNode at h
  cases isNew with
  | true =>
    cases h
    exact ⟨fun n e => Option.some.inj e ▸ ⟨rfl, rfl, rfl⟩, fun o e => (nomatch e), fun _ e => (nomatch e)⟩
  | false =>
    cases ho : db.getRow handle entity with
    | none => rw [ho] at h; cases h
    | some o =>
      obtain ⟨hid, hent⟩ := getRow_id ho
      rw [ho] at h
      cases hv : (val.isSome || touched) with
      | true =>
        simp only [hv, if_true, Bool.false_eq_true, if_false] at h
        cases h
        exact ⟨fun n e => Option.some.inj e ▸ ⟨hid, hent, rfl⟩, fun o' e => Option.some.inj e ▸ rfl, fun _ e => (nomatch e)⟩
      | false =>
        simp only [hv, Bool.false_eq_true, if_false] at h
        cases h
        refine ⟨fun n e => (nomatch e), fun o' e => Option.some.inj e ▸ rfl, fun ht => ?_⟩
        rw [ht, Bool.or_true] at hv; cases hv

/-- what `planItem` guarantees of the change it plans: the row to write is of the change's entity and room, the stored
    row is the one `getRow` finds, a change that writes no row touches no reference, and the references it adds or
    removes are stored at the row it writes -/
structure Planned (db : Db) (c : Change) : Prop where
  node : ∀ n, c.node = some n → n.entity = c.entity ∧ n.room = c.roomId
  old : ∀ o, c.old = some o → ∀ n, c.node = some n → db.getRow n.id c.entity = some o
  quiet : c.node = none → c.edgeDels = [] ∧ c.edgeIns = []
  src : ∀ n, c.node = some n → (∀ e ∈ c.edgeIns, e.src = n.id) ∧ (∀ e ∈ c.edgeDels, e.src = n.id)

theorem mem_edgesOf {src label : Nat} {e : EdgeRow} :
    e ∈ db.edgesOf src label ↔ e ∈ db.edges ∧ e.src = src ∧ e.label = label := by
  simp [Db.edgesOf, List.mem_filter]

theorem refChanges_spec {handle : Nat} {sh : Shape} :
    (∀ e ∈ (refChanges db now handle sh).2, e.src = handle ∧ db.edgeExists e.src e.label e.dest = false) ∧
    (∀ e ∈ (refChanges db now handle sh).1, e.src = handle ∧ e ∈ db.edges) := by
  have stored : ∀ label, ∀ e ∈ db.edgesOf handle label, e.src = handle ∧ e ∈ db.edges :=
    fun label e he => ⟨(mem_edgesOf.mp he).2.1, (mem_edgesOf.mp he).1⟩
  cases sh with
  | none => exact ⟨fun _ he => (nomatch he), fun _ he => (nomatch he)⟩
  | arr label dests =>
    refine ⟨fun e he => ?_, fun _ he => (nomatch he)⟩
    obtain ⟨c, hc, rfl⟩ := List.mem_map.mp he
    exact ⟨rfl, by simpa using (List.mem_filter.mp hc).2⟩
  | ent label dest =>
    by_cases hx : db.edgeExists handle label dest = true
    · rw [show refChanges db now handle (.ent label dest) = ([], []) from if_pos hx]
      exact ⟨fun _ he => (nomatch he), fun _ he => (nomatch he)⟩
    · rw [show refChanges db now handle (.ent label dest) =
        (db.edgesOf handle label, [⟨handle, label, dest, 0, now⟩]) from if_neg hx]
      refine ⟨fun e he => ?_, stored label⟩
      cases List.mem_singleton.mp he
      exact ⟨rfl, by simpa using hx⟩
  | null label => exact ⟨fun _ he => (nomatch he), stored label⟩

theorem planItem_ok {it : Item} {c : Change} (h : planItem db now it = .ok c) :
    c.entity = it.entity ∧ c.shadowed = it.shadowed ∧
    c.edgeDels = (refChanges db now it.handle it.shape).1 ∧ c.edgeIns = (refChanges db now it.handle it.shape).2 ∧
    planNode db now it.handle it.isNew it.entity it.room it.val (!c.edgeDels.isEmpty || !c.edgeIns.isEmpty) =
      .ok (c.roomId, c.old, c.node) := by
  unfold planItem at h
  dsimp only at h
  split at h
  · cases h
  · rename_i hp
    cases h
    exact ⟨rfl, rfl, rfl, rfl, hp⟩

theorem planItem_planned {it : Item} {c : Change} (h : planItem db now it = .ok c) : Planned db c := by
  obtain ⟨he, _, hd, hi, hp⟩ := planItem_ok h
  obtain ⟨h1, h2, h3⟩ := planNode_ok hp
  refine ⟨fun n hn => ?_, fun o ho n hn => ?_, fun hn => ?_, fun n hn => ?_⟩
  · exact ⟨(h1 n hn).2.1.trans he.symm, (h1 n hn).2.2⟩
  · rw [(h1 n hn).1, he]; exact h2 o ho
  · have hq : (!c.edgeDels.isEmpty || !c.edgeIns.isEmpty) = false := Bool.eq_false_iff.mpr fun ht => h3 ht hn
    simpa [List.isEmpty_iff] using hq
  · rw [(h1 n hn).1, hd, hi]
    exact ⟨fun e he => (refChanges_spec.1 e he).1, fun e he => (refChanges_spec.2 e he).1⟩

theorem planItems_cons {it : Item} {its : List Item} {cs : List Change} (h : planItems db now (it :: its) = .ok cs) :
    ∃ c rest, cs = c :: rest ∧ planItem db now it = .ok c ∧ planItems db now its = .ok rest := by
  unfold planItems at h
  cases hc : planItem db now it with
  | error e => rw [hc] at h; cases h
  | ok c =>
    cases hr : planItems db now its with
    | error e => rw [hc, hr] at h; cases h
    | ok rest => rw [hc, hr] at h; cases h; exact ⟨c, rest, rfl, rfl, rfl⟩

theorem planItems_mem {its : List Item} {cs : List Change}
    (h : planItems db now its = .ok cs) : ∀ c ∈ cs, ∃ it ∈ its, planItem db now it = .ok c := by
  induction its generalizing cs with
  | nil => cases h; intro c hc; cases hc
  | cons it t ih =>
    obtain ⟨c, rest, rfl, hc, hrest⟩ := planItems_cons h
    intro x hx
    rcases List.mem_cons.mp hx with rfl | hx
    · exact ⟨it, List.mem_cons_self .., hc⟩
    · obtain ⟨it', hit', hp⟩ := ih hrest x hx
      exact ⟨it', List.mem_cons_of_mem _ hit', hp⟩

theorem plan_planned {m : Mut} {cs : List Change} (h : plan db now m = .ok cs) : ∀ c ∈ cs, Planned db c := by
  intro c hc
  obtain ⟨it, _, hp⟩ := planItems_mem h c hc
  exact planItem_planned hp

theorem plan_root {m : Mut} {cs : List Change}
    (h : plan db now m = .ok cs) : ∃ top rest, cs = top :: rest ∧ top.shadowed = false ∧ top.entity = m.entity := by
  cases m with
  | mk handle isNew entity room val field =>
    obtain ⟨c, rest, rfl, hc, _⟩ := planItems_cons (it := _) (its := _) h
    obtain ⟨he, hs, _⟩ := planItem_ok hc
    exact ⟨c, rest, rfl, hs, he⟩

end

theorem plan_refs {db : Db} {now : Int} {m : Mut} {cs : List Change} (h : plan db now m = .ok cs) : ∀ c ∈ cs,
      (∀ e ∈ c.edgeIns, db.edgeExists e.src e.label e.dest = false) ∧ (∀ e ∈ c.edgeDels, e ∈ db.edges) := by
  intro c hc
  obtain ⟨it, _, hp⟩ := planItems_mem h c hc
  obtain ⟨_, _, hd, hi, _⟩ := planItem_ok hp
  rw [hd, hi]
  exact ⟨fun e he => (refChanges_spec.1 e he).2, fun e he => (refChanges_spec.2 e he).2⟩

theorem mutate_rows_authorised {df : Defects} {rooms : List Room} {db db' : Db} {caller : Key} {now : Int} {m : Mut}
    {cs : List Change} (hp : plan db now m = .ok cs)
    (hskip : df.subNodesSkipped = false ∨ ∀ c ∈ cs, c.shadowed = true → c.node = none)
    (hmove : df.oldRoomLookup = false ∨ ∀ c ∈ cs, NoMove c)
    (h : mutate df rooms db caller now m = .ok db') :
    ∀ r ∈ db'.rows, r ∉ db.rows →
      ∃ c, Authorised rooms caller now c ∧ c.entity = r.entity ∧ c.roomId = r.room ∧ r.author = caller ∧
        ∀ o, c.old = some o → db.getRow r.id r.entity = some o := by
  obtain ⟨l, hmap, rfl, hauth⟩ := mutate_authorised hp hskip hmove h
  intro r hr hnot
  rcases applyAll_rows hr with h1 | ⟨ct, hct, n, hn, rfl⟩
  · exact absurd h1 hnot
  · have hc : ct.1 ∈ cs := hmap ▸ List.mem_map_of_mem hct
    have hpl := plan_planned hp ct.1 hc
    obtain ⟨hne, hnr⟩ := hpl.node n hn
    refine ⟨ct.1, hauth ct.1 hc (hn ▸ Option.some_ne_none n), hne.symm, hnr.symm, rfl, fun o ho => ?_⟩
    rw [show ({ n with author := caller } : Row).entity = ct.1.entity from hne]
    exact hpl.old o ho n hn

def incomingOk (rooms : List Room) (db : Db) (caller : Key) (now : Int) (handle : Nat) : Bool :=
  (db.edges.filter fun e => e.dest = handle && e.src ≠ handle).all fun e => mayTouch rooms db caller now e.src

section
variable {df : Defects} {rooms : List Room} {db : Db} {caller : Key} {now : Int} {handle : Nat}
  {entity : Ent} {row : Row}

theorem deleteNode_ok_iff {db' : Db} (hrow : db.getRow handle entity = some row) :
    deleteNode df rooms db caller now handle entity = .ok db' ↔
      ((df.incomingRefsUnchecked || incomingOk rooms db caller now handle) &&
        match row.room with
        | none => true
        | some rid => canB rooms rid caller entity now (if row.author = caller then .mutateSelf else .mutateAll)) = true ∧
      db' = { rows := db.rows.filter (fun r => r.id ≠ handle),
              edges := db.edges.filter fun e => e.src ≠ handle && e.dest ≠ handle,
              nodeTombs := match row.room with
                | none => db.nodeTombs
                | some rid => upsertNodeTomb db.nodeTombs
                    { room := rid, id := handle, entity, mdate := row.mdate, ddate := now, author := caller },
              edgeTombs := db.edgeTombs } := by
  unfold deleteNode incomingOk canB
  rw [hrow]
  dsimp only
  rw [← Bool.not_or]
  cases (df.incomingRefsUnchecked || (db.edges.filter fun e => e.dest = handle && e.src ≠ handle).all fun e =>
      mayTouch rooms db caller now e.src) with
  | false => simp
  | true =>
    cases row.room with
    | none => simp [eq_comm]
    | some rid =>
      dsimp only
      cases getRoom rooms rid with
      | none => simp
      | some room =>
        dsimp only
        cases room.can caller entity now (if row.author = caller then .mutateSelf else .mutateAll) <;> simp [eq_comm]

theorem deleteNode_accepted {db db' : Db} (hrow : db.getRow handle entity = some row)
    (h : deleteNode df rooms db caller now handle entity = .ok db') :
    (df.incomingRefsUnchecked = false →
      ∀ e ∈ db.edges, e.dest = handle → e.src ≠ handle → mayTouch rooms db caller now e.src = true) ∧
    (∀ rid, row.room = some rid →
      Allowed rooms caller now entity (if row.author = caller then .mutateSelf else .mutateAll) rid) ∧
    db'.rows = db.rows.filter (fun r => r.id ≠ handle) ∧
    db'.edges = db.edges.filter (fun e => e.src ≠ handle && e.dest ≠ handle) := by
  obtain ⟨hb, rfl⟩ := (deleteNode_ok_iff hrow).mp h
  rw [Bool.and_eq_true] at hb
  refine ⟨fun hdf e he hd hs => ?_, fun rid hr => ?_, rfl, rfl⟩
  · have hall := hb.1
    rw [hdf, Bool.false_or] at hall
    exact List.all_eq_true.mp hall e (List.mem_filter.mpr ⟨he, by simp [hd, hs]⟩)
  · have hroom := hb.2
    rw [hr] at hroom
    exact canB_iff.mp hroom

theorem deleteRef_toBool {label dest : Nat} {edge : EdgeRow} {rid : Id}
    (hrow : db.getRow handle entity = some row) (hr : row.room = some rid)
    (hedge : db.edges.find? (fun e => e.src = handle && e.label = label && e.dest = dest) = some edge) :
    (deleteRef df rooms db caller now handle entity label dest).toBool =
      canB rooms rid caller entity now
        (if (if df.refRightOnEdgeAuthor then edge.author = caller else (edge.author = caller && row.author = caller))
          then .mutateSelf else .mutateAll) := by
  cases hg : getRoom rooms rid with
  | none => simp only [deleteRef, hrow, hedge, hr, hg, canB_none hg]; rfl
  | some room =>
    simp only [deleteRef, hrow, hedge, hr, hg, canB_some hg]
    cases room.can caller entity now
      (if (if df.refRightOnEdgeAuthor then edge.author = caller else (edge.author = caller && row.author = caller))
        then .mutateSelf else .mutateAll) <;> rfl

/-- the deletion of a reference that does not exist changes nothing (when the source row is not re-signed, #3) -/
theorem deleteRef_absent {label dest : Nat} (hrow : db.getRow handle entity = some row)
    (hedge : db.edges.find? (fun e => e.src = handle && e.label = label && e.dest = dest) = none)
    (hdf : df.refDeletionResign = false) :
    deleteRef df rooms db caller now handle entity label dest = .ok db := by
  unfold deleteRef
  rw [hrow]
  dsimp only
  rw [hedge, hdf]
  rfl

end

end Discret.LocalWrite
