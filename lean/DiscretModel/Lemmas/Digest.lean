import DiscretModel.Model.Digest
/-
Lemmas for C06 (signed digests): little-endian and JSON-string encodings are injective, a row is
determined by its digest input within a shape class (any encoding), and an encoding that writes lengths and
presence out (`Defects.none`) determines the shape. Core Lean only.
-/
namespace Discret.Digest

theorem leBytes_length (n v : Nat) : (leBytes n v).length = n := by
  induction n generalizing v with
  | zero => rfl
  | succ n ih => simp [leBytes, ih]

def ofLe : Bytes → Nat
  | [] => 0
  | b :: r => b + 256 * ofLe r

theorem ofLe_leBytes (n v : Nat) : ofLe (leBytes n v) = v % 256 ^ n := by
  induction n generalizing v with
  | zero => simp [leBytes, ofLe, Nat.mod_one]
  | succ n ih =>
    simp only [leBytes, ofLe, ih]
    rw [Nat.pow_succ, Nat.mul_comm (256 ^ n) 256, Nat.mod_mul]

theorem leBytes_inj {n v w : Nat} (h : leBytes n v = leBytes n w) (hv : v < 256 ^ n) (hw : w < 256 ^ n) :
    v = w := by
  have := congrArg ofLe h
  rw [ofLe_leBytes, ofLe_leBytes, Nat.mod_eq_of_lt hv, Nat.mod_eq_of_lt hw] at this
  exact this

theorem i64le_length (i : Int) : (i64le i).length = 8 := leBytes_length _ _

theorem i64le_inj {i j : Int} (h : i64le i = i64le j)
    (hi : -9223372036854775808 ≤ i ∧ i < 9223372036854775808)
    (hj : -9223372036854775808 ≤ j ∧ j < 9223372036854775808) : i = j := by
  unfold i64le at h
  have := leBytes_inj h (by omega) (by omega)
  omega

theorem hexDigit_inj {a b : Nat} (ha : a < 16) (hb : b < 16) (h : hexDigit a = hexDigit b) : a = b := by
  unfold hexDigit at h
  split at h <;> split at h <;> omega

/-- the byte a one-letter escape stands for -/
def unescLetter (c : Nat) : Option Nat :=
  if c = 34 then some 34 else if c = 92 then some 92
  else if c = 98 then some 8 else if c = 102 then some 12
  else if c = 110 then some 10 else if c = 114 then some 13
  else if c = 116 then some 9 else none

theorem escByte_letter : ∀ b ∈ [34, 92, 8, 12, 10, 13, 9], ∃ e ∈ [34, 92, 98, 102, 110, 114, 116],
    escByte b = [92, e] ∧ unescLetter e = some b := by decide

theorem escByte_cases (b : Nat) :
    (∃ e, escByte b = [92, e] ∧ unescLetter e = some b) ∨
    (b < 32 ∧ escByte b = [92, 117, 48, 48, hexDigit (b / 16), hexDigit (b % 16)]) ∨
    (b ≠ 34 ∧ b ≠ 92 ∧ escByte b = [b]) := by
  by_cases h5 : b ∈ [34, 92, 8, 12, 10, 13, 9]
  · obtain ⟨e, -, he⟩ := escByte_letter b h5
    exact .inl ⟨e, he⟩
  simp only [List.mem_cons, List.not_mem_nil, or_false, not_or] at h5
  by_cases h : b < 32
  · exact .inr (.inl ⟨h, by simp [escByte, h5, h]⟩)
  · exact .inr (.inr ⟨h5.1, h5.2.1, by simp [escByte, h5, h]⟩)

/-- The escapes form a prefix code: two escapes of different forms differ in the first or second byte
    (`u` is no one-letter escape), two of the same form are compared through `unescLetter` and `hexDigit_inj`. -/
theorem escByte_prefix {a b : Nat} {x y : Bytes} (h : escByte a ++ x = escByte b ++ y) : a = b ∧ x = y := by
  have hu : unescLetter 117 = none := by decide
  rcases escByte_cases a with ⟨e, he, hs⟩ | ⟨ha, ha'⟩ | ⟨-, ha, ha'⟩ <;>
    rcases escByte_cases b with ⟨e', he', hs'⟩ | ⟨hb, hb'⟩ | ⟨-, hb, hb'⟩ <;> simp_all
  have h1 := hexDigit_inj (by omega) (by omega) h.1
  have h2 := hexDigit_inj (by omega) (by omega) h.2.1
  omega

theorem escByte_head_ne_quote (a : Nat) (x y : Bytes) : escByte a ++ x ≠ 34 :: y := by
  intro h
  rcases escByte_cases a with ⟨e, he, -⟩ | ⟨-, hu⟩ | ⟨hq, -, hr⟩
  · rw [he] at h; cases h
  · rw [hu] at h; cases h
  · rw [hr] at h; exact hq (List.cons.inj h).1

theorem escape_inj {s t : Bytes} {x y : Bytes} (h : escape s ++ 34 :: x = escape t ++ 34 :: y) : s = t ∧ x = y := by
  induction s generalizing t with
  | nil =>
    cases t with
    | nil => simpa [escape] using h
    | cons b t =>
      simp only [escape, List.nil_append, List.append_assoc] at h
      exact absurd h.symm (escByte_head_ne_quote _ _ _)
  | cons a s ih =>
    cases t with
    | nil =>
      simp only [escape, List.nil_append, List.append_assoc] at h
      exact absurd h (escByte_head_ne_quote _ _ _)
    | cons b t =>
      simp only [escape, List.append_assoc] at h
      obtain ⟨hab, hr⟩ := escByte_prefix h
      obtain ⟨hst, hxy⟩ := ih hr
      exact ⟨by rw [hab, hst], hxy⟩

theorem jsonQuote_inj {s t : Bytes} (h : jsonQuote s = jsonQuote t) : s = t := by
  unfold jsonQuote at h
  simp only [List.cons.injEq, true_and] at h
  exact (escape_inj (x := []) (y := []) h).1

theorem lenPrefix_inj {d : Defects} {b b' : Bytes} (h : lenPrefix d b = lenPrefix d b') : b = b' := by
  unfold lenPrefix at h
  split at h
  · exact h
  · exact (List.append_inj h (by simp [leBytes_length])).2

theorem presence_length (d : Defects) (o o' : Option Bytes) : (presence d o).length = (presence d o').length := by
  unfold presence; split <;> simp

theorem encVal_inj_of_present {d : Defects} {ty : Ty} {v v' : Val} (hv : valOk ty v = true) (hv' : valOk ty v' = true)
    (hp : v.present = v'.present) (h : encVal d ty v = encVal d ty v') : v = v' := by
  have strip : ∀ {o o' : Option Bytes} {p p' : Bytes}, presence d o ++ p = presence d o' ++ p' → p = p' :=
    fun h => (List.append_inj h (presence_length _ _ _)).2
  cases ty <;> cases v <;> simp only [valOk, Bool.false_eq_true] at hv <;>
    cases v' <;> simp only [valOk, Bool.false_eq_true] at hv'
  case uid.bytes.bytes | fixed32.bytes.bytes | key.bytes.bytes => exact congrArg _ h
  case i64.int.int i j =>
    simp only [Bool.and_eq_true, decide_eq_true_eq] at hv hv'
    rw [i64le_inj h hv hv']
  case str.bytes.bytes => rw [lenPrefix_inj h]
  case optUid.opt.opt o o' =>
    cases o <;> cases o' <;> simp only [Val.present, Bool.false_eq_true, Bool.true_eq_false] at hp
    · rfl
    · exact congrArg (Val.opt ∘ some) (strip h)
  case optJson.opt.opt o o' =>
    cases o <;> cases o' <;> simp only [Val.present, Bool.false_eq_true, Bool.true_eq_false] at hp
    · rfl
    · rw [jsonQuote_inj (lenPrefix_inj (strip h))]
  case optBin.opt.opt o o' =>
    cases o <;> cases o' <;> simp only [Val.present, Bool.false_eq_true, Bool.true_eq_false] at hp
    · rfl
    · rw [lenPrefix_inj (strip h)]

theorem rowOk_nil {r : Row} (h : rowOk [] r = true) : r = [] := by
  cases r with
  | nil => rfl
  | cons v vs => simp [rowOk] at h

theorem rowOk_cons {f : FieldSpec} {fs : Layout} {r : Row} (h : rowOk (f :: fs) r = true) :
    ∃ v vs, r = v :: vs ∧ valOk f.ty v = true ∧ rowOk fs vs = true := by
  cases r with
  | nil => simp [rowOk] at h
  | cons v vs => exact ⟨v, vs, rfl, by simpa [rowOk] using h⟩

theorem encFields_inj_of_shape (d : Defects) (l : Layout) (r r' : Row) (h1 : rowOk l r = true) (h2 : rowOk l r' = true)
    (hs : shape d l r = shape d l r') (he : encFields d l r = encFields d l r') : r = r' := by
  induction l generalizing r r' with
  | nil => rw [rowOk_nil h1, rowOk_nil h2]
  | cons f fs ih =>
    obtain ⟨v, vs, rfl, hv, hvs⟩ := rowOk_cons h1
    obtain ⟨v', vs', rfl, hv', hvs'⟩ := rowOk_cons h2
    simp only [shape, List.cons.injEq, Prod.mk.injEq] at hs
    obtain ⟨hev, het⟩ := List.append_inj he hs.1.2
    rw [encVal_inj_of_present hv hv' hs.1.1 hev, ih vs vs' hvs hvs' hs.2 het]

section
variable {d : Defects} (hl : d.lengthsUnbound = false) (hp : d.presenceUnbound = false)
include hl

theorem lenPrefix_bound_length {b b' x y : Bytes} (hb : b.length < 18446744073709551616)
    (hb' : b'.length < 18446744073709551616) (h : lenPrefix d b ++ x = lenPrefix d b' ++ y) :
    (lenPrefix d b).length = (lenPrefix d b').length := by
  simp only [lenPrefix, hl, Bool.false_eq_true, if_false, List.append_assoc] at h ⊢
  have := leBytes_inj (List.append_inj h (by simp [leBytes_length])).1 (by simpa using hb) (by simpa using hb')
  simp [leBytes_length, this]

include hp

/-- With lengths and presence written out, what a field contributes tells its own presence flag and length,
    whatever follows it: the digest input determines the shape, and `encFields_inj_of_shape` does the rest. -/
theorem encVal_bound_shape {ty : Ty} {v v' : Val} {x y : Bytes} (hv : valOk ty v = true) (hv' : valOk ty v' = true)
    (h : encVal d ty v ++ x = encVal d ty v' ++ y) :
    v.present = v'.present ∧ (encVal d ty v).length = (encVal d ty v').length := by
  have raw : ∀ {b b' : Bytes} {n : Nat}, (b.length == n) = true → (b'.length == n) = true → b.length = b'.length :=
    fun hb hb' => (beq_iff_eq.mp hb).trans (beq_iff_eq.mp hb').symm
  cases ty <;> cases v <;> simp only [valOk, Bool.false_eq_true] at hv <;>
    cases v' <;> simp only [valOk, Bool.false_eq_true] at hv'
  case uid.bytes.bytes | fixed32.bytes.bytes | key.bytes.bytes => exact ⟨rfl, raw hv hv'⟩
  case i64.int.int i j => exact ⟨rfl, (i64le_length i).trans (i64le_length j).symm⟩
  case str.bytes.bytes b b' =>
    simp only [decide_eq_true_eq] at hv hv'
    exact ⟨rfl, lenPrefix_bound_length hl hv hv' h⟩
  case optUid.opt.opt o o' =>
    cases o <;> cases o' <;> simp [encVal, presence, hp, Val.present] at h ⊢
    exact raw hv hv'
  case optJson.opt.opt o o' | optBin.opt.opt o o' =>
    cases o <;> cases o' <;> simp [encVal, presence, hp, Val.present] at h ⊢
    simp only [decide_eq_true_eq] at hv hv'
    exact lenPrefix_bound_length hl hv hv' h

theorem encFields_bound_shape (l : Layout) (r r' : Row) (h1 : rowOk l r = true) (h2 : rowOk l r' = true)
    (he : encFields d l r = encFields d l r') : shape d l r = shape d l r' := by
  induction l generalizing r r' with
  | nil => rw [rowOk_nil h1, rowOk_nil h2]
  | cons f fs ih =>
    obtain ⟨v, vs, rfl, hv, hvs⟩ := rowOk_cons h1
    obtain ⟨v', vs', rfl, hv', hvs'⟩ := rowOk_cons h2
    obtain ⟨hpr, hlen⟩ := encVal_bound_shape hl hp hv hv' he
    simp only [shape, hpr, hlen, ih vs vs' hvs hvs' (List.append_inj he hlen).2]

end

theorem Kind.tag_inj {k k' : Kind} (h : k.tag = k'.tag) : k = k' := by
  cases k <;> cases k' <;> simp [Kind.tag] at h ⊢

/-- the least number of bytes a field of the type contributes; the lengths separate the fixed-size announce
    digest from every row digest (`C06_partial_announce_safe`) -/
def Ty.minLen : Ty → Nat
  | .uid => 16 | .fixed32 => 32 | .key => 33 | .i64 => 8 | _ => 0

theorem Ty.minLen_le (d : Defects) {ty : Ty} {v : Val} (h : valOk ty v = true) : ty.minLen ≤ (encVal d ty v).length := by
  cases ty <;> cases v <;> simp_all [valOk, encVal, Ty.minLen, i64le_length]

def minLen : Layout → Nat
  | [] => 0
  | f :: fs => f.ty.minLen + minLen fs

theorem encFields_length_ge (d : Defects) (l : Layout) (r : Row) (h : rowOk l r = true) :
    minLen l ≤ (encFields d l r).length := by
  induction l generalizing r with
  | nil => exact Nat.zero_le _
  | cons f fs ih =>
    obtain ⟨v, vs, rfl, hv, hvs⟩ := rowOk_cons h
    have := ih vs hvs
    have := Ty.minLen_le d hv
    simp only [minLen, encFields, List.length_append]
    omega

theorem sigValid_msg {d : Defects} {k : Kind} {l : Layout} {r : Row} {s : Sig} (h : sigValid d k l r s = true) :
    s.msg = encode d k l r := by
  simp only [sigValid, hash, Bool.and_eq_true, beq_iff_eq] at h
  exact h.2

theorem rowKey_none_of_no_key : ∀ (l : Layout) (r : Row), ¬ (l.any (fun f => f.ty == .key) = true) →
    rowKey l r = none
  | [], _, _ => by simp [rowKey]
  | _ :: _, [], _ => by simp [rowKey]
  | f :: fs, v :: vs, h => by
    simp only [List.any_cons, Bool.or_eq_true, beq_iff_eq, not_or] at h
    simp only [rowKey, rowKey_none_of_no_key fs vs h.2]
    split
    · next hk => exact absurd hk h.1
    · rfl

theorem rowKey_setKey (sk : Bytes) (l : Layout) (r : Row) (h : rowOk l r = true)
    (ha : l.any (fun f => f.ty == .key) = true) : rowKey l (setKey sk l r) = some sk := by
  induction l generalizing r with
  | nil => simp at ha
  | cons f fs ih =>
    obtain ⟨v, vs, rfl, -, hvs⟩ := rowOk_cons h
    simp only [setKey, rowKey]
    by_cases hfs : fs.any (fun f => f.ty == .key) = true
    · rw [ih vs hvs hfs]
    · simp only [List.any_cons, Bool.or_eq_true, hfs, beq_iff_eq] at ha
      have hty : f.ty = .key := by simpa using ha
      simp [rowKey_none_of_no_key fs _ hfs, hty]

end Discret.Digest
