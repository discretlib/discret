import DiscretModel.Model.Lock
import DiscretModel.Lemmas.Basic
/-
The lock service (`Model/Lock.lean`). The invariant `Inv` (no room locked twice, `locked + avail = max`, the queue
enumerates the peers of the pending map) is carried through one scan of the queue by stating it on the visited
and the remaining part (`vstate`); a scan only locks more and only shrinks requests (`Sub`), and one that grants
nothing leaves every pending room locked (`Settled`). Every operation is bookkeeping followed by acquisition
rounds (`step_eq`), so what `acquireN` guarantees (`Acquired`) is what a step guarantees (`step_spec`); the
facts about single steps that `Props/C20.lean`, `LockFair` and `LockConn` use follow from it.
-/
namespace Discret.Lock

def keys (l : List (Peer × Req)) : List Peer := l.map Prod.fst

theorem keys_cons (x : Peer × Req) (l : List (Peer × Req)) : keys (x :: l) = x.1 :: keys l := rfl

theorem mem_keys {p : Peer} {r : Req} {l : List (Peer × Req)} (h : (p, r) ∈ l) : p ∈ keys l :=
  List.mem_map_of_mem (f := Prod.fst) h

theorem erase_eq_filter (p : Peer) (l : List (Peer × Req)) :
    erase p l = l.filter fun x => x.1 != p := by
  fun_induction erase p l with
  | case1 => rfl
  | case2 r rest ih => simpa using ih
  | case3 q r rest hne ih => simp [hne, ih]

theorem mem_erase {p q : Peer} {r : Req} {l : List (Peer × Req)} :
    (q, r) ∈ erase p l ↔ (q, r) ∈ l ∧ q ≠ p := by
  simp [erase_eq_filter]

theorem keys_erase_eq (p : Peer) (l : List (Peer × Req)) :
    keys (erase p l) = (keys l).filter (· != p) := by
  rw [erase_eq_filter, keys, keys, List.filter_map]; rfl

theorem keys_erase {p q : Peer} {l : List (Peer × Req)} :
    q ∈ keys (erase p l) ↔ q ∈ keys l ∧ q ≠ p := by
  rw [keys_erase_eq, List.mem_filter, bne_iff_ne]

theorem keys_erase_nodup {p : Peer} {l : List (Peer × Req)} (h : (keys l).Nodup) :
    (keys (erase p l)).Nodup :=
  keys_erase_eq p l ▸ h.sublist List.filter_sublist

theorem keys_erase_perm {p : Peer} {l : List (Peer × Req)} (hn : (keys l).Nodup) (hp : p ∈ keys l) :
    (keys l).Perm (p :: keys (erase p l)) := by
  rw [keys_erase_eq, ← hn.erase_eq_filter]
  exact List.perm_cons_erase hp

theorem lookup_some_mem {p : Peer} {l : List (Peer × Req)} {r : Req} (h : lookup p l = some r) :
    (p, r) ∈ l := by
  fun_induction lookup p l with
  | case1 => cases h
  | case2 r' rest => cases h; exact List.mem_cons_self
  | case3 q r' rest hne ih => exact List.mem_cons_of_mem _ (ih h)

theorem lookup_none_iff {p : Peer} {l : List (Peer × Req)} : lookup p l = none ↔ p ∉ keys l := by
  fun_induction lookup p l with
  | case1 => exact ⟨fun _ => List.not_mem_nil, fun _ => rfl⟩
  | case2 r rest => exact ⟨nofun, fun h => absurd List.mem_cons_self h⟩
  | case3 q r rest hne ih =>
    rw [ih]
    show p ∉ keys rest ↔ p ∉ q :: keys rest
    rw [List.mem_cons, not_or]
    exact ⟨fun h => ⟨Ne.symm hne, h⟩, And.right⟩

theorem mem_uniq {l : List (Peer × Req)} (hn : (keys l).Nodup) {p : Peer} {r1 r2 : Req}
    (h1 : (p, r1) ∈ l) (h2 : (p, r2) ∈ l) : r1 = r2 :=
  (Prod.mk.inj (eq_of_nodup_map hn h1 h2 rfl)).2

theorem live_iff {dead : List Ch} {ch : Ch} : (!dead.contains ch) = true ↔ ch ∉ dead := by
  rw [Bool.not_eq_true', ← Bool.not_eq_true, List.contains_iff_mem]

theorem mem_rotate {x r : Room} {rest : List Room} : x ∈ rest ++ [r] ↔ x ∈ r :: rest := by
  simp [or_comm]

theorem roomLoop_sub {locked : List Room} {live : Bool} {fuel : Nat} {rooms : List Room} :
    ∀ x ∈ (roomLoop locked live fuel rooms).1, x ∈ rooms := by
  fun_induction roomLoop locked live fuel rooms with
  | case1 rooms => exact fun _ hx => hx
  | case2 n => exact fun _ hx => hx
  | case3 fuel a rest hl ih => exact fun x hx => mem_rotate.mp (ih x hx)
  | case4 fuel a rest hl hlive => exact fun x hx => List.mem_cons_of_mem _ hx
  | case5 fuel a rest hl hlive ih => exact fun x hx => List.mem_cons_of_mem _ (ih x hx)

theorem roomLoop_some {locked : List Room} {live : Bool} {fuel : Nat} {rooms rooms' : List Room}
    {r : Room} (h : roomLoop locked live fuel rooms = (rooms', some r)) :
    r ∉ locked ∧ live = true ∧ r ∈ rooms := by
  fun_induction roomLoop locked live fuel rooms with
  | case1 rooms => cases h
  | case2 n => cases h
  | case3 fuel a rest hl ih => exact (ih h).imp_right (.imp_right mem_rotate.mp)
  | case4 fuel a rest hl hlive => cases h; exact ⟨mt List.contains_iff_mem.mpr hl, hlive, List.mem_cons_self⟩
  | case5 fuel a rest hl hlive ih => exact (ih h).imp_right (.imp_right (List.mem_cons_of_mem _))

theorem roomLoop_live_perm {locked : List Room} {fuel : Nat} {rooms rooms' : List Room}
    {g : Option Room} (h : roomLoop locked true fuel rooms = (rooms', g)) :
    rooms.Perm (g.toList ++ rooms') := by
  fun_induction roomLoop locked true fuel rooms with
  | case1 rooms => cases h; exact .refl _
  | case2 n => cases h; exact .refl _
  | case3 fuel a rest hl ih => exact (List.perm_append_singleton a rest).symm.trans (ih h)
  | case4 fuel a rest hl hlive => cases h; exact .refl _
  | case5 fuel a rest hl hlive ih => exact absurd rfl hlive

theorem roomLoop_none_live_keeps {locked : List Room} {fuel : Nat} {rooms rooms' : List Room}
    (h : roomLoop locked true fuel rooms = (rooms', none)) : ∀ x ∈ rooms, x ∈ rooms' :=
  fun _ hx => (roomLoop_live_perm h).subset hx

/-- after a pass without grant a room that remains is locked, or the fuel did not reach it -/
theorem roomLoop_none_locked {locked : List Room} {live : Bool} {fuel : Nat} {rooms rooms' : List Room}
    (h : roomLoop locked live fuel rooms = (rooms', none)) :
    ∀ x ∈ rooms', x ∈ locked ∨ x ∈ rooms.drop fuel := by
  fun_induction roomLoop locked live fuel rooms with
  | case1 rooms => cases h; exact fun _ hx => Or.inr hx
  | case2 n => cases h; exact fun _ hx => Or.inr hx
  | case3 fuel a rest hl ih =>
    intro x hx
    refine (ih h x hx).elim Or.inl fun h1 => ?_
    rw [List.drop_append] at h1
    rcases List.mem_append.mp h1 with h2 | h2
    · exact Or.inr h2
    · rw [List.mem_singleton.mp (List.mem_of_mem_drop h2)]
      exact Or.inl (List.contains_iff_mem.mp hl)
  | case4 fuel a rest hl hlive => cases h
  | case5 fuel a rest hl hlive ih => exact ih h

theorem roomLoop_full_none_locked {locked : List Room} {live : Bool} {rooms rooms' : List Room}
    (h : roomLoop locked live rooms.length rooms = (rooms', none)) : ∀ x ∈ rooms', x ∈ locked :=
  fun x hx => (roomLoop_none_locked h x hx).elim id fun h1 => nomatch List.drop_length ▸ h1

theorem roomLoop_live_some {locked : List Room} {rooms : List Room}
    (hfree : ∃ r ∈ rooms, r ∉ locked) :
    ∃ rooms' r', roomLoop locked true rooms.length rooms = (rooms', some r') := by
  generalize hres : roomLoop locked true rooms.length rooms = res
  obtain ⟨rooms', g⟩ := res
  cases g with
  | some r' => exact ⟨rooms', r', rfl⟩
  | none =>
    obtain ⟨r, hr, hnl⟩ := hfree
    exact absurd (roomLoop_full_none_locked hres r (roomLoop_none_live_keeps hres r hr)) hnl

theorem roomLoop_drop_dead {locked : List Room} {live : Bool} {fuel : Nat} {rooms rooms' : List Room}
    {g : Option Room} (h : roomLoop locked live fuel rooms = (rooms', g))
    (hdrop : ¬ rooms.Perm (g.toList ++ rooms')) : live = false := by
  cases live with
  | false => rfl
  | true => exact absurd (roomLoop_live_perm h) hdrop

structure Inv (max : Nat) (s : State) : Prop where
  lockedNodup : s.locked.Nodup
  count : s.locked.length + s.avail = max
  keysNodup : (keys s.reqs).Nodup
  queuePerm : s.queue.Perm (keys s.reqs)

theorem inv_init (max : Nat) : Inv max (init max) :=
  ⟨List.nodup_nil, Nat.zero_add _, List.nodup_nil, .nil⟩

theorem Inv.queueNodup {max : Nat} {s : State} (hi : Inv max s) : s.queue.Nodup :=
  hi.queuePerm.nodup_iff.mpr hi.keysNodup

theorem Inv.queueKeys {max : Nat} {s : State} (hi : Inv max s) (p : Peer) :
    p ∈ s.queue ↔ p ∈ keys s.reqs :=
  hi.queuePerm.mem_iff

theorem mem_queue_of_mem_reqs {max : Nat} {s : State} (hi : Inv max s) {p : Peer} {req : Req}
    (hm : (p, req) ∈ s.reqs) : p ∈ s.queue :=
  (hi.queueKeys p).mpr (mem_keys hm)

theorem exists_req_of_mem_queue {max : Nat} {s : State} (hi : Inv max s) {p : Peer} (hq : p ∈ s.queue) :
    ∃ req, (p, req) ∈ s.reqs := by
  obtain ⟨⟨_, req⟩, hm, rfl⟩ := List.mem_map.mp ((hi.queueKeys p).mp hq)
  exact ⟨req, hm⟩

/-- nobody waits for a free room: every pending room is locked (the state a scan without grant ends in) -/
def Settled (s : State) : Prop :=
  ∀ p req, (p, req) ∈ s.reqs → ∀ r ∈ req.rooms, r ∈ s.locked

/-- what acquisition rounds do to a state, grants aside: rooms stay locked, receivers stay as they are, and every
    request of `s'` is a request of `s` on the same channel with some of its rooms gone -/
structure Sub (s s' : State) : Prop where
  locked : ∀ r ∈ s.locked, r ∈ s'.locked
  dead : s'.dead = s.dead
  reqs : ∀ p req', (p, req') ∈ s'.reqs → ∃ req, (p, req) ∈ s.reqs ∧ req'.ch = req.ch ∧
    ∀ x ∈ req'.rooms, x ∈ req.rooms

theorem Sub.refl (s : State) : Sub s s :=
  ⟨fun _ h => h, rfl, fun _ req h => ⟨req, h, rfl, fun _ hx => hx⟩⟩

theorem Sub.trans {a b c : State} (h1 : Sub a b) (h2 : Sub b c) : Sub a c := by
  refine ⟨fun r hr => h2.locked r (h1.locked r hr), h2.dead.trans h1.dead, ?_⟩
  intro p req'' h
  obtain ⟨req', hm', hc', hs'⟩ := h2.reqs p req'' h
  obtain ⟨req, hm, hc, hs⟩ := h1.reqs p req' hm'
  exact ⟨req, hm, hc'.trans hc, fun x hx => hs x (hs' x hx)⟩

theorem Settled.of_sub {s s' : State} (h : Settled s) (hs : Sub s s') : Settled s' := by
  intro p req' hm r hr
  obtain ⟨req, hm0, _, hsub⟩ := hs.reqs p req' hm
  exact hs.locked r (h p req hm0 r (hsub r hr))

/-- grant `g` answers a request that is pending in `s`, on a channel whose receiver is there -/
def Pending (s : State) (g : Ch × Room) : Prop :=
  g.1 ∉ s.dead ∧ ∃ p req, (p, req) ∈ s.reqs ∧ req.ch = g.1 ∧ g.2 ∈ req.rooms

theorem Sub.pending {s s' : State} (hs : Sub s s') {g : Ch × Room} (h : Pending s' g) : Pending s g := by
  obtain ⟨hd, p, req', hm', hc', hr'⟩ := h
  obtain ⟨req, hm, hc, hsub⟩ := hs.reqs p req' hm'
  exact ⟨hs.dead ▸ hd, p, req, hm, hc ▸ hc', hsub _ hr'⟩

/-! During a scan the queue of the service is split into `sk` (the peers visited and skipped, in their
order) and `todo` (the peers still to visit): the invariant is stated on `sk ++ todo`.
`acquire s` is `scan s s.queue []`, so what is proved of `scan` holds of `acquire` as it stands. -/

def vstate (s : State) (sk todo : List Peer) : State := { s with queue := sk ++ todo }

section scan
variable {max : Nat}

/-- the requests after the turn of peer `p` whose request was `req` and whose rooms became `rooms'` -/
def turnReqs (s : State) (p : Peer) (req : Req) (rooms' : List Room) : List (Peer × Req) :=
  if rooms'.isEmpty then erase p s.reqs else (p, { req with rooms := rooms' }) :: erase p s.reqs

theorem mem_turnReqs {s : State} {p : Peer} {req : Req} {rooms' : List Room} {p' : Peer} {req' : Req} :
    (p', req') ∈ turnReqs s p req rooms' ↔
      ((p', req') ∈ s.reqs ∧ p' ≠ p) ∨ (rooms' ≠ [] ∧ p' = p ∧ req' = { req with rooms := rooms' }) := by
  unfold turnReqs
  split
  · next he =>
    rw [mem_erase]
    exact ⟨.inl, fun h => h.elim id fun h => absurd (List.isEmpty_iff.mp he) h.1⟩
  · next he =>
    have hne : rooms' ≠ [] := fun e => he (e ▸ rfl)
    rw [List.mem_cons, mem_erase, Prod.mk.injEq, or_comm]
    exact or_congr_right ⟨fun h => ⟨hne, h⟩, And.right⟩

theorem turnReqs_nodup {s : State} {p : Peer} {req : Req} {rooms' : List Room}
    (hn : (keys s.reqs).Nodup) : (keys (turnReqs s p req rooms')).Nodup := by
  unfold turnReqs
  split
  · exact keys_erase_nodup hn
  · exact List.nodup_cons.mpr ⟨fun hm => (keys_erase.mp hm).2 rfl, keys_erase_nodup hn⟩

theorem turn_sub {s : State} {p : Peer} {req : Req} {rooms' : List Room}
    (hl : lookup p s.reqs = some req) (hsub : ∀ x ∈ rooms', x ∈ req.rooms) :
    Sub s { s with reqs := turnReqs s p req rooms' } := by
  refine ⟨fun _ h => h, rfl, fun p' req' hm => ?_⟩
  rcases mem_turnReqs.mp hm with ⟨h, _⟩ | ⟨_, rfl, rfl⟩
  · exact ⟨req', h, rfl, fun _ hx => hx⟩
  · exact ⟨req, lookup_some_mem hl, rfl, hsub⟩

theorem turn_none_inv {s : State} {p : Peer} {q sk : List Peer} {req : Req} {rooms' : List Room}
    (hi : Inv max (vstate s sk (p :: q))) :
    Inv max (vstate { s with reqs := turnReqs s p req rooms' }
      (if rooms'.isEmpty then sk else sk ++ [p]) q) := by
  have hp : (p :: (sk ++ q)).Perm (keys s.reqs) := List.perm_middle.symm.trans hi.queuePerm
  have hrest : (sk ++ q).Perm (keys (erase p s.reqs)) :=
    (hp.trans (keys_erase_perm hi.keysNodup (hp.subset List.mem_cons_self))).cons_inv
  refine ⟨hi.lockedNodup, hi.count, turnReqs_nodup hi.keysNodup, ?_⟩
  show ((if rooms'.isEmpty then sk else sk ++ [p]) ++ q).Perm (keys (turnReqs s p req rooms'))
  unfold turnReqs
  split
  · exact hrest
  · rw [List.append_assoc]; exact List.perm_middle.trans (hrest.cons p)

theorem Inv.lookup_head {s : State} {p : Peer} {q sk : List Peer}
    (hi : Inv max (vstate s sk (p :: q))) : lookup p s.reqs ≠ none :=
  fun hl => lookup_none_iff.mp hl ((hi.queueKeys p).mp (by simp [vstate]))

theorem scan_inv {s s' : State} {todo sk : List Peer} {g : Option (Ch × Room)}
    (hi : Inv max (vstate s sk todo)) (ha : 0 < s.avail) (h : scan s todo sk = (s', g)) :
    Inv max s' := by
  fun_induction scan s todo sk with
  | case1 s sk => cases h; exact List.append_nil sk ▸ hi
  | case2 s p q sk hl ih => exact absurd hl hi.lookup_head
  | case3 s p q sk req hl res reqs' r hr =>
    cases h
    have hnl : r ∉ s.locked :=
      (roomLoop_some (Prod.ext rfl hr : roomLoop _ _ _ _ = (res.1, some r))).1
    -- up to the order of the queue this is the state after a turn without grant, plus the lock
    have ht := turn_none_inv (req := req) (rooms' := res.1) hi
    have hperm : (sk ++ if res.1.isEmpty then q else q ++ [p]).Perm
        ((if res.1.isEmpty then sk else sk ++ [p]) ++ q) := by
      split
      · exact .refl _
      · rw [List.append_assoc]; exact List.perm_append_comm.append_left sk
    refine ⟨List.nodup_cons.mpr ⟨hnl, hi.lockedNodup⟩, ?_, ht.keysNodup, hperm.trans ht.queuePerm⟩
    show (r :: s.locked).length + (s.avail - 1) = max
    rw [List.length_cons, Nat.add_assoc, Nat.add_sub_of_le ha]
    exact hi.count
  | case4 s p q sk req hl res reqs' hr ih => exact ih (turn_none_inv hi) ha h

theorem scan_sub {s s' : State} {todo sk : List Peer} {g : Option (Ch × Room)}
    (h : scan s todo sk = (s', g)) : Sub s s' := by
  fun_induction scan s todo sk with
  | case1 s sk => cases h; exact ⟨fun _ h => h, rfl, fun _ req h => ⟨req, h, rfl, fun _ hx => hx⟩⟩
  | case2 s p q sk hl ih => exact ih h
  | case3 s p q sk req hl res reqs' r hr =>
    cases h
    exact ⟨fun _ hx => List.mem_cons_of_mem _ hx, rfl, (turn_sub hl roomLoop_sub).reqs⟩
  | case4 s p q sk req hl res reqs' hr ih => exact (turn_sub hl roomLoop_sub).trans (ih h)

theorem scan_none {s s' : State} {todo sk : List Peer} (h : scan s todo sk = (s', none)) :
    s'.locked = s.locked ∧ s'.avail = s.avail := by
  fun_induction scan s todo sk with
  | case1 s sk => cases h; exact ⟨rfl, rfl⟩
  | case2 s p q sk hl ih => exact ih h
  | case3 s p q sk req hl res reqs' r hr => cases h
  | case4 s p q sk req hl res reqs' hr ih => exact ih h

theorem scan_some {s s' : State} {todo sk : List Peer} {ch : Ch} {r : Room}
    (h : scan s todo sk = (s', some (ch, r))) :
    r ∉ s.locked ∧ s'.locked = r :: s.locked ∧ s'.avail = s.avail - 1 ∧ Pending s (ch, r) := by
  fun_induction scan s todo sk with
  | case1 s sk => cases h
  | case2 s p q sk hl ih => exact ih h
  | case3 s p q sk req hl res reqs' r' hr =>
    cases h
    obtain ⟨a, b, c⟩ := roomLoop_some (Prod.ext rfl hr : roomLoop _ _ _ _ = (res.1, some _))
    exact ⟨a, rfl, rfl, live_iff.mp b, p, req, lookup_some_mem hl, rfl, c⟩
  | case4 s p q sk req hl res reqs' hr ih =>
    exact (ih h).imp_right (.imp_right (.imp_right (turn_sub hl roomLoop_sub).pending))

theorem scan_avail {s s' : State} {todo sk : List Peer} {g : Option (Ch × Room)}
    (h : scan s todo sk = (s', g)) : s.avail - 1 ≤ s'.avail := by
  cases g with
  | none => exact (scan_none h).2 ▸ Nat.sub_le _ _
  | some cr => exact Nat.le_of_eq (scan_some h).2.2.1.symm

theorem scan_none_settled {s s' : State} {todo sk : List Peer}
    (hi : Inv max (vstate s sk todo)) (h : scan s todo sk = (s', none))
    (hd : ∀ p ∈ sk, ∀ req, (p, req) ∈ s.reqs → ∀ r ∈ req.rooms, r ∈ s.locked) : Settled s' := by
  fun_induction scan s todo sk with
  | case1 s sk =>
    cases h
    intro p req hm
    have : p ∈ sk ++ [] := mem_queue_of_mem_reqs hi hm
    exact hd p (List.append_nil sk ▸ this) req hm
  | case2 s p q sk hl ih => exact absurd hl hi.lookup_head
  | case3 s p q sk req hl res reqs' r hr => cases h
  | case4 s p q sk req hl res reqs' hr ih =>
    refine ih (turn_none_inv hi) h fun p' hp' req' hm => ?_
    rcases mem_turnReqs.mp hm with ⟨hm0, hne⟩ | ⟨_, rfl, rfl⟩
    · refine hd p' ?_ req' hm0
      split at hp'
      · exact hp'
      · exact (List.mem_append.mp hp').resolve_right fun h => hne (List.mem_singleton.mp h)
    · exact roomLoop_full_none_locked (Prod.ext rfl hr : roomLoop _ _ _ _ = (res.1, none))

theorem scan_none_live_keeps {s s' : State} {todo sk : List Peer}
    (hi : Inv max (vstate s sk todo)) (h : scan s todo sk = (s', none))
    {p : Peer} {req : Req} (hm : (p, req) ∈ s.reqs) (hlive : req.ch ∉ s.dead)
    {x : Room} (hx : x ∈ req.rooms) :
    ∃ req', (p, req') ∈ s'.reqs ∧ req'.ch = req.ch ∧ x ∈ req'.rooms := by
  fun_induction scan s todo sk generalizing req with
  | case1 s sk => cases h; exact ⟨req, hm, rfl, hx⟩
  | case2 s p0 q sk hl ih => exact absurd hl hi.lookup_head
  | case3 s p0 q sk req0 hl res reqs' r hr => cases h
  | case4 s p0 q sk req0 hl res reqs' hr ih =>
    have hstep : ∃ req1, (p, req1) ∈ turnReqs s p0 req0 res.1 ∧ req1.ch = req.ch ∧ x ∈ req1.rooms := by
      by_cases hpp : p = p0
      · subst hpp
        cases mem_uniq hi.keysNodup (lookup_some_mem hl) hm
        have hres : roomLoop s.locked (!s.dead.contains req0.ch) req0.rooms.length req0.rooms
            = (res.1, none) := Prod.ext rfl hr
        rw [live_iff.mpr hlive] at hres
        have hk := roomLoop_none_live_keeps hres x hx
        exact ⟨_, mem_turnReqs.mpr (Or.inr ⟨List.ne_nil_of_mem hk, rfl, rfl⟩), rfl, hk⟩
      · exact ⟨req, mem_turnReqs.mpr (Or.inl ⟨hm, hpp⟩), rfl, hx⟩
    obtain ⟨req1, hm1, hc1, hk1⟩ := hstep
    obtain ⟨req', hm', hc', hk'⟩ := ih (turn_none_inv hi) h hm1 (hc1 ▸ hlive) hk1
    exact ⟨req', hm', hc'.trans hc1, hk'⟩

end scan

theorem vstate_acquire {max : Nat} {s : State} (hi : Inv max s) : Inv max (vstate s [] s.queue) := hi

theorem acquire_inv {max : Nat} {s s' : State} {g : Option (Ch × Room)}
    (hi : Inv max s) (ha : 0 < s.avail) (h : acquire s = (s', g)) : Inv max s' :=
  scan_inv (vstate_acquire hi) ha h

theorem acquire_none_settled {max : Nat} {s s' : State}
    (hi : Inv max s) (h : acquire s = (s', none)) : Settled s' :=
  scan_none_settled (vstate_acquire hi) h (fun _ hp => nomatch hp)

/-- the no-missed-wake-up invariant: spare capacity implies nobody waits for a free room -/
def NoMissed (s : State) : Prop := s.avail = 0 ∨ Settled s

/-- the outcome `(s2, gs)` of `n` acquisition rounds from `s`: the grants are stacked on `locked` in order, each
    answers a request pending in `s`, and fewer than `n` grants means the rounds stopped in a settled state -/
structure Acquired (max : Nat) (s : State) (n : Nat) (s2 : State) (gs : List (Ch × Room)) : Prop where
  inv : Inv max s2
  sub : Sub s s2
  locked : s2.locked = (gs.map Prod.snd).reverse ++ s.locked
  full : gs.length = n ∨ Settled s2
  pending : ∀ g ∈ gs, Pending s g

theorem acquireN_spec {max : Nat} {n : Nat} {s s2 : State} {gs : List (Ch × Room)}
    (hi : Inv max s) (hn : n ≤ s.avail) (h : acquireN n s = (s2, gs)) : Acquired max s n s2 gs := by
  fun_induction acquireN n s generalizing s2 gs with
  | case1 s => cases h; exact ⟨hi, Sub.refl _, rfl, Or.inl rfl, fun _ hg => nomatch hg⟩
  | case2 n s s1 g ha1 s2' gs' ha2 ih =>
    cases h
    have hpos : 0 < s.avail := Nat.lt_of_lt_of_le (Nat.succ_pos n) hn
    have hs1 : Sub s s1 := scan_sub ha1
    have hav : n ≤ s1.avail := Nat.le_trans (Nat.le_sub_one_of_lt hn) (scan_avail ha1)
    have rest := ih (acquire_inv hi hpos ha1) hav ha2
    have hback : ∀ g ∈ gs', Pending s g := fun g hg => hs1.pending (rest.pending g hg)
    cases g with
    | none =>
      refine ⟨rest.inv, hs1.trans rest.sub, rest.locked.trans (by rw [(scan_none ha1).1]; rfl), ?_, hback⟩
      exact Or.inr ((acquire_none_settled hi ha1).of_sub rest.sub)
    | some cr =>
      obtain ⟨_, hl1, _, hpend⟩ := scan_some ha1
      refine ⟨rest.inv, hs1.trans rest.sub, ?_, rest.full.imp_left (congrArg (· + 1)), ?_⟩
      · rw [rest.locked, hl1]
        show _ = (_ :: _).reverse ++ _
        rw [List.reverse_cons, List.append_assoc]; rfl
      · intro g hg
        rcases List.mem_cons.mp hg with rfl | hg
        · exact hpend
        · exact hback g hg

/-! Every operation is some bookkeeping (`pre`) followed by a number (`rounds`) of acquisition rounds:
`step_eq`. -/

theorem requestPre_inv {max : Nat} {s : State} (hi : Inv max s) (p : Peer) (rooms : List Room) (ch : Ch) :
    Inv max (requestPre s p rooms ch) := by
  unfold requestPre
  split
  · next req hl =>
    exact ⟨hi.lockedNodup, hi.count,
      List.nodup_cons.mpr ⟨fun hm => (keys_erase.mp hm).2 rfl, keys_erase_nodup hi.keysNodup⟩,
      hi.queuePerm.trans (keys_erase_perm hi.keysNodup (mem_keys (lookup_some_mem hl)))⟩
  · next hl =>
    exact ⟨hi.lockedNodup, hi.count, List.nodup_cons.mpr ⟨lookup_none_iff.mp hl, hi.keysNodup⟩,
      (List.perm_append_singleton p _).trans (hi.queuePerm.cons p)⟩

theorem requestPre_frame (s : State) (p : Peer) (rooms : List Room) (ch : Ch) :
    (requestPre s p rooms ch).locked = s.locked ∧ (requestPre s p rooms ch).dead = s.dead := by
  unfold requestPre; split <;> exact ⟨rfl, rfl⟩

theorem requestPre_reqs {s : State} {p : Peer} {rooms : List Room} {ch : Ch} {q : Peer} {req : Req}
    (h : (q, req) ∈ (requestPre s p rooms ch).reqs) :
    req.ch = ch ∨ (q, req) ∈ s.reqs := by
  unfold requestPre at h
  split at h
  · rcases List.mem_cons.mp h with e | e
    · left; cases e; rfl
    · right; exact (mem_erase.mp e).1
  · rcases List.mem_cons.mp h with e | e
    · left; cases e; rfl
    · right; exact e

theorem unlockPre_inv {max : Nat} {s : State} (hi : Inv max s) {r : Room} (hr : r ∈ s.locked) :
    Inv max (unlockPre s r) := by
  refine ⟨hi.lockedNodup.erase r, ?_, hi.keysNodup, hi.queuePerm⟩
  show (s.locked.erase r).length + (s.avail + 1) = max
  rw [List.length_erase_of_mem hr, ← Nat.add_assoc, Nat.add_right_comm,
    Nat.sub_add_cancel (List.length_pos_of_mem hr)]
  exact hi.count

theorem step_unlock {s : State} {r : Room} (hr : r ∈ s.locked) :
    step s (.unlock r) = ((acquire (unlockPre s r)).1, (acquire (unlockPre s r)).2.toList) :=
  if_pos (List.contains_iff_mem.mpr hr)

/-- an `Unlock` of a locked room is its bookkeeping followed by one acquisition round: the form in which the
    proofs about `unlock` take the step apart -/
theorem step_unlock_cases {s : State} {r : Room} (hr : r ∈ s.locked) :
    ∃ s2 g, acquire (unlockPre s r) = (s2, g) ∧ step s (.unlock r) = (s2, g.toList) :=
  ⟨_, _, rfl, step_unlock hr⟩

def pre (s : State) : Op → State
  | .request p rooms ch => requestPre s p rooms ch
  | .unlock r => if s.locked.contains r then unlockPre s r else s
  | .drop ch => { s with dead := ch :: s.dead }

def rounds (s : State) : Op → Nat
  | .request p rooms ch => (requestPre s p rooms ch).avail
  | .unlock r => if s.locked.contains r then 1 else 0
  | .drop _ => 0

theorem step_eq (s : State) (op : Op) : step s op = acquireN (rounds s op) (pre s op) := by
  cases op with
  | request p rooms ch => rfl
  | unlock r =>
    show (if s.locked.contains r then _ else _) = acquireN (if s.locked.contains r then 1 else 0)
      (if s.locked.contains r then unlockPre s r else s)
    split
    · exact Prod.ext rfl (List.append_nil _).symm
    · rfl
  | drop ch => rfl

theorem pre_inv {max : Nat} {s : State} (hi : Inv max s) (op : Op) : Inv max (pre s op) := by
  cases op with
  | request p rooms ch => exact requestPre_inv hi p rooms ch
  | unlock r =>
    simp only [pre]
    split
    · next hc => exact unlockPre_inv hi (List.contains_iff_mem.mp hc)
    · exact hi
  | drop ch => exact ⟨hi.lockedNodup, hi.count, hi.keysNodup, hi.queuePerm⟩

theorem rounds_le (s : State) (op : Op) : rounds s op ≤ (pre s op).avail := by
  cases op with
  | request p rooms ch => exact Nat.le_refl _
  | unlock r =>
    show (if s.locked.contains r then 1 else 0) ≤ (if s.locked.contains r then unlockPre s r else s).avail
    split
    · exact Nat.le_add_left 1 _
    · exact Nat.zero_le _
  | drop ch => exact Nat.zero_le _

theorem mem_pre_locked {max : Nat} {s : State} (hi : Inv max s) {op : Op} {r : Room} :
    r ∈ (pre s op).locked ↔ r ∈ s.locked ∧ op ≠ .unlock r := by
  cases op with
  | request p rooms ch => simp [pre, (requestPre_frame s p rooms ch).1]
  | unlock r0 =>
    simp only [pre, ne_eq, Op.unlock.injEq]
    split
    · simp [unlockPre, hi.lockedNodup.mem_erase_iff, and_comm, eq_comm]
    · next hc => exact ⟨fun h => ⟨h, fun e => hc (List.contains_iff_mem.mpr (e ▸ h))⟩, fun h => h.1⟩
  | drop ch => simp [pre]

theorem pre_dead (s : State) (op : Op) : ∀ c ∈ s.dead, c ∈ (pre s op).dead := by
  cases op with
  | request p rooms ch => rw [pre, (requestPre_frame s p rooms ch).2]; exact fun _ h => h
  | unlock r => simp only [pre]; split <;> exact fun _ h => h
  | drop ch => exact fun _ h => List.mem_cons_of_mem _ h

theorem pre_reqs {s : State} {op : Op} {q : Peer} {req : Req} (h : (q, req) ∈ (pre s op).reqs) :
    (q, req) ∈ s.reqs ∨ ∃ p rooms, op = .request p rooms req.ch := by
  cases op with
  | request p rooms ch =>
    exact (requestPre_reqs h).symm.imp_right fun e => ⟨p, rooms, by rw [e]⟩
  | unlock r => simp only [pre] at h; split at h <;> exact Or.inl h
  | drop ch => exact Or.inl h

theorem step_spec {max : Nat} {s : State} (hi : Inv max s) (op : Op) :
    Acquired max (pre s op) (rounds s op) (step s op).1 (step s op).2 :=
  acquireN_spec (pre_inv hi op) (rounds_le s op) (step_eq s op).symm

theorem step_inv {max : Nat} {s : State} (hi : Inv max s) (op : Op) : Inv max (step s op).1 :=
  (step_spec hi op).inv

theorem mem_step_locked {max : Nat} {s : State} (hi : Inv max s) (op : Op) {r : Room} :
    r ∈ (step s op).1.locked ↔ (r ∈ s.locked ∧ op ≠ .unlock r) ∨ ∃ ch, (ch, r) ∈ (step s op).2 := by
  rw [(step_spec hi op).locked, List.mem_append, mem_pre_locked hi, or_comm]
  simp

theorem step_locked_stays {max : Nat} {s : State} (hi : Inv max s) (op : Op) {r : Room}
    (hr : r ∈ s.locked) (hop : op ≠ .unlock r) : r ∈ (step s op).1.locked :=
  (mem_step_locked hi op).mpr (Or.inl ⟨hr, hop⟩)

theorem step_grants {max : Nat} {s : State} (hi : Inv max s) (op : Op) :
    ((step s op).2.map Prod.snd).Nodup ∧
    ∀ g ∈ (step s op).2, (g.2 ∉ s.locked ∨ op = .unlock g.2) ∧ g.2 ∈ (step s op).1.locked ∧
      g.1 ∉ s.dead := by
  obtain ⟨hi', _, hl, _, hg⟩ := step_spec hi op
  -- the grants sit on top of the rooms that stayed locked, and `locked` has no duplicates
  have hnd := hi'.lockedNodup
  rw [hl, List.nodup_append] at hnd
  refine ⟨(List.reverse_perm _).nodup_iff.mp hnd.1, fun g hg' => ⟨?_, ?_, ?_⟩⟩
  · have hn : g.2 ∉ (pre s op).locked := fun hm =>
      hnd.2.2 g.2 (List.mem_reverse.mpr (List.mem_map_of_mem hg')) g.2 hm rfl
    rw [mem_pre_locked hi] at hn
    by_cases e : op = .unlock g.2
    · exact .inr e
    · exact .inl fun h => hn ⟨h, e⟩
  · exact (mem_step_locked hi op).mpr (Or.inr ⟨g.1, hg'⟩)
  · exact fun hd => (hg g hg').1 (pre_dead s op _ hd)

theorem step_noMissed {max : Nat} {s : State} (hi : Inv max s) (hn : NoMissed s) (op : Op) :
    NoMissed (step s op).1 := by
  cases op with
  | request p rooms ch =>
    obtain ⟨hi', _, hl, hfull, _⟩ := step_spec hi (.request p rooms ch)
    refine hfull.imp (fun hfull => ?_) id
    have h1 := hi'.count
    rw [hl] at h1
    simp only [List.length_append, List.length_reverse, List.length_map, hfull] at h1
    -- `avail` grants stacked on `locked` leave no slot
    have h2 : (pre s (.request p rooms ch)).avail + (pre s (.request p rooms ch)).locked.length = max :=
      Nat.add_comm _ _ ▸ (pre_inv hi (.request p rooms ch)).count
    exact Nat.add_left_cancel (h1.trans h2.symm)
  | unlock r =>
    by_cases hr : r ∈ s.locked
    case neg => rw [step, if_neg (mt List.contains_iff_mem.mp hr)]; exact hn
    obtain ⟨s2, g, ha, hst⟩ := step_unlock_cases hr
    rw [hst]
    have h1 := unlockPre_inv hi hr
    cases g with
    | none => exact Or.inr (acquire_none_settled h1 ha)
    | some cr =>
      obtain ⟨ch, r'⟩ := cr
      obtain ⟨p1, p2, p3, _, p', req, hm, _, hrr⟩ := scan_some ha
      have hsub := scan_sub ha
      refine hn.imp (fun hn0 => p3.trans hn0) fun hn => ?_
      -- the room granted was pending, hence locked before: it is the room just released
      have heq : r' = r := Classical.not_not.mp fun hne =>
        p1 ((List.mem_erase_of_ne hne).mpr (hn p' req hm r' hrr))
      subst heq
      -- so every room locked before is locked again
      refine hn.of_sub ⟨fun x hx => ?_, hsub.dead, hsub.reqs⟩
      show x ∈ s2.locked
      rw [p2]
      by_cases e : x = r'
      · exact e ▸ List.mem_cons_self
      · exact List.mem_cons_of_mem _ ((List.mem_erase_of_ne e).mpr hx)
  | drop ch => exact hn

theorem unlock_progress {max : Nat} {s : State} (hi : Inv max s) {r : Room} (hr : r ∈ s.locked)
    {p : Peer} {req : Req} (hm : (p, req) ∈ s.reqs) (hlive : req.ch ∉ s.dead) (hw : r ∈ req.rooms) :
    (step s (.unlock r)).2 ≠ [] := by
  obtain ⟨s2, g, ha, hst⟩ := step_unlock_cases hr
  rw [hst]
  have h1 := unlockPre_inv hi hr
  cases g with
  | some cr => simp
  | none =>
    -- otherwise `r` would still be pending and, everything being settled, locked
    exfalso
    obtain ⟨req', hm', _, hx'⟩ := scan_none_live_keeps (vstate_acquire h1) ha hm hlive hw
    have : r ∈ s2.locked := acquire_none_settled h1 ha p req' hm' r hx'
    rw [(scan_none ha).1] at this
    exact hi.lockedNodup.not_mem_erase this

/-- the state after a run is the fold of the steps: invariants of a run are `foldl_invariant` of it -/
theorem run_fst (s : State) (ops : List Op) : (run s ops).1 = ops.foldl (fun s op => (step s op).1) s := by
  induction ops generalizing s with
  | nil => rfl
  | cons op rest ih => exact ih _

theorem run_append (s : State) (a b : List Op) :
    run s (a ++ b) = ((run (run s a).1 b).1, (run s a).2 ++ (run (run s a).1 b).2) := by
  induction a generalizing s with
  | nil => simp [run]
  | cons op a ih => simp only [List.cons_append, run, ih, List.cons_append]

theorem step_grant_ch {max : Nat} {s : State} (hi : Inv max s) (op : Op) :
    ∀ g ∈ (step s op).2,
      (∃ p req, (p, req) ∈ s.reqs ∧ req.ch = g.1) ∨ ∃ p rooms, op = .request p rooms g.1 := by
  intro g hg
  obtain ⟨_, p, req, hm, hc, _⟩ := (step_spec hi op).pending g hg
  exact (pre_reqs hm).imp (fun h => ⟨p, req, h, hc⟩) (hc ▸ id)

theorem step_reqs_ch {max : Nat} {s : State} (hi : Inv max s) (op : Op) :
    ∀ p req', (p, req') ∈ (step s op).1.reqs →
      (∃ p0 req, (p0, req) ∈ s.reqs ∧ req.ch = req'.ch) ∨ ∃ p rooms, op = .request p rooms req'.ch := by
  intro p req' hm
  obtain ⟨req, hm0, hc, _⟩ := (step_spec hi op).sub.reqs p req' hm
  exact (pre_reqs hm0).imp (fun h => ⟨p, req, h, hc.symm⟩) (hc ▸ id)

theorem step_dead_mono {max : Nat} {s : State} (hi : Inv max s) (op : Op) :
    ∀ c ∈ s.dead, c ∈ (step s op).1.dead :=
  fun c hc => (step_spec hi op).sub.dead ▸ pre_dead s op c hc

end Discret.Lock
