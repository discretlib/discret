import DiscretModel.Gen.RoomKernel
/-!
Obligations of translator T7: every definition regenerated from `src/database/room.rs`
(Gen/RoomKernel.lean) equals the hand-written model function of Model/Room.lean that the theorems of
C01 C02 C07 C08 C10 C12 are proved about. A semantic change of the Rust function changes the
regenerated definition and the equality stops checking.
-/
namespace Discret.Gen.RoomKernel
open Discret.Room Discret.Rust

theorem mmGet_cases {K V : Type} [DecidableEq K] (key : V → K) (m : List V) (k : K) :
    (mmGet key m k = none ∧ m.filter (fun x => key x = k) = []) ∨
    (mmGet key m k = some (m.filter (fun x => key x = k))) := by
  unfold mmGet mmGetD
  cases List.filter (fun x => decide (key x = k)) m with
  | nil => exact .inl ⟨rfl, rfl⟩
  | cons v vs => exact .inr rfl

/-- the lookup shared by `is_admin`, `can_admin_users`, `is_user_valid_at` -/
theorem lookup_enabled (l : List User) (k : Key) (d : Int) :
    (match mmGet (fun (x : User) => x.key) l k with
     | some val =>
       (let user_opt := (val.reverse.find? (fun (user : User) => decide (user.date ≤ d)));
        match user_opt with
        | some user => user.enabled
        | none => false)
     | _ => false) = enabledAt l k d := by
  unfold enabledAt lastAt
  rcases mmGet_cases (fun (x : User) => x.key) l k with ⟨h, hf⟩ | h
  · rw [h, hf]; rfl
  · rw [h]; rfl

theorem dedup_mem {K : Type} [DecidableEq K] (l : List K) (x : K) : x ∈ dedup l ↔ x ∈ l := by
  induction l with
  | nil => simp [dedup]
  | cons a t ih =>
    simp only [dedup, List.mem_cons, List.mem_filter, ih]
    by_cases h : x = a <;> simp [h]

/-- `for a in coll { if p(a) { return e; } }` -/
theorem forReturn_isSome {α ρ : Type} (coll : List α) (p : α → Bool) (e : ρ) :
    forReturn coll (fun a => if p a then some e else none) = if coll.any p then some e else none := by
  induction coll with
  | nil => rfl
  | cons a t ih =>
    rw [forReturn, List.findSome?_cons, List.any_cons]
    cases p a
    · exact ih
    · rfl

theorem mmEntries_any {V : Type} (key : V → Key) (m : List V) (p : V → Bool) :
    ((mmEntries key m).any fun entry => entry.2.any p) = m.any p := by
  rw [Bool.eq_iff_iff]
  simp only [mmEntries, mmGetD, List.any_map, List.any_eq_true, List.mem_filter, Function.comp]
  constructor
  · rintro ⟨k, _, x, ⟨hx, _⟩, hp⟩
    exact ⟨x, hx, hp⟩
  · rintro ⟨x, hx, hp⟩
    exact ⟨key x, (dedup_mem _ _).2 (List.mem_map.2 ⟨x, hx, rfl⟩), x, ⟨hx, by simp⟩, hp⟩

theorem Right_new_eq (vf : Int) (e : Ent) (ms ma : Bool) : Right_new vf e ms ma = Right.new vf e ms ma := by
  unfold Right_new Right.new
  cases ms <;> cases ma <;> rfl

theorem Auth_add_user_eq (a : Auth) (u : User) : Auth_add_user a u = a.addUser u := by
  unfold Auth_add_user Auth.addUser addUserEntry mmGetD mmPush
  dsimp only
  generalize (List.filter (fun x => decide (x.key = u.key)) a.users).getLast? = o
  cases o with
  | none => rfl
  | some last =>
    by_cases hd : last.date > u.date <;> simp [hd]

theorem Auth_add_user_admin_eq (a : Auth) (u : User) : Auth_add_user_admin a u = a.addUserAdmin u := by
  unfold Auth_add_user_admin Auth.addUserAdmin addUserEntry mmGetD mmPush
  dsimp only
  generalize (List.filter (fun x => decide (x.key = u.key)) a.userAdmins).getLast? = o
  cases o with
  | none => rfl
  | some last =>
    by_cases hd : last.date > u.date <;> simp [hd]

theorem Room_add_admin_user_eq (r : Room) (u : User) : Room_add_admin_user r u = r.addAdmin u := by
  unfold Room_add_admin_user Room.addAdmin addUserEntry mmGetD mmPush
  dsimp only
  generalize (List.filter (fun x => decide (x.key = u.key)) r.admins).getLast? = o
  cases o with
  | none => rfl
  | some last =>
    by_cases hd : last.date > u.date <;> simp [hd]

theorem Auth_add_right_eq (a : Auth) (x : Right) : Auth_add_right a x = a.addRight x := by
  unfold Auth_add_right Auth.addRight addRightEntry mmGetD mmPush
  dsimp only
  generalize (List.filter (fun r => decide (r.entity = x.entity)) a.rights).getLast? = o
  cases o with
  | none => rfl
  | some last =>
    by_cases hd : last.validFrom > x.validFrom <;> simp [hd]

theorem Auth_get_right_at_eq (a : Auth) (e : Ent) (d : Int) : Auth_get_right_at a e d = rightAt a.rights e d := by
  unfold Auth_get_right_at rightAt
  rcases mmGet_cases (fun (x : Right) => x.entity) a.rights e with ⟨h, hf⟩ | h
  · rw [h, hf]; rfl
  · rw [h]

theorem Auth_has_user_eq (a : Auth) (k : Key) : Auth_has_user a k = a.hasUser k := by
  unfold Auth_has_user Auth.hasUser mmContains
  rfl

theorem Auth_can_admin_users_eq (a : Auth) (k : Key) (d : Int) : Auth_can_admin_users a k d = a.canAdminUsers k d := by
  unfold Auth_can_admin_users Auth.canAdminUsers
  exact lookup_enabled _ _ _

theorem Auth_is_user_valid_at_eq (a : Auth) (k : Key) (d : Int) : Auth_is_user_valid_at a k d = a.isUserValidAt k d := by
  unfold Auth_is_user_valid_at Auth.isUserValidAt
  rw [← lookup_enabled a.users k d, ← lookup_enabled a.userAdmins k d]
  rfl

theorem Auth_can_eq (a : Auth) (e : Ent) (d : Int) (rt : RightType) : Auth_can a e d rt = a.can e d rt := by
  unfold Auth_can Auth.can
  simp only [Auth_get_right_at_eq]
  cases rightAt a.rights e d <;> cases rightAt a.rights wildcard d <;> cases rt <;> rfl

theorem Room_add_auth_eq (r : Room) (a : Auth) : Room_add_auth r a = r.addAuth a := by
  unfold Room_add_auth Room.addAuth hmContains hmInsert
  by_cases h : (r.auths.any fun x => decide (x.id = a.id)) = true
  · simp [h]
  · simp only [Bool.not_eq_true] at h
    simp [h]

theorem Room_is_admin_eq (r : Room) (k : Key) (d : Int) : Room_is_admin r k d = r.isAdmin k d := by
  unfold Room_is_admin Room.isAdmin
  exact lookup_enabled _ _ _

theorem Room_can_eq (r : Room) (k : Key) (e : Ent) (d : Int) (rt : RightType) :
    Room_can r k e d rt = r.can k e d rt := by
  unfold Room_can Room.can
  simp only [Room_is_admin_eq, Auth_is_user_valid_at_eq, Auth_can_eq, forReturn_isSome, hmEntries, List.any_map,
    Function.comp_def]
  cases (r.auths.any fun a => (r.isAdmin k d || a.isUserValidAt k d) && a.can e d rt) <;> rfl

theorem Room_is_user_valid_at_eq (r : Room) (k : Key) (d : Int) :
    Room_is_user_valid_at r k d = r.isUserValidAt k d := by
  unfold Room_is_user_valid_at Room.isUserValidAt enabledAt lastAt
  simp only [Auth_is_user_valid_at_eq, forReturn_isSome, hmEntries, List.any_map, Function.comp_def]
  generalize (r.auths.any fun x => x.isUserValidAt k d) = b
  rcases mmGet_cases (fun (x : User) => x.key) r.admins k with ⟨h1, f1⟩ | h1
  · simp only [h1]; rw [f1]; cases b <;> rfl
  · simp only [h1]
    generalize List.find? (fun (user : User) => decide (user.date ≤ d)) (List.filter (fun x => decide (x.key = k)) r.admins).reverse = o
    cases o with
    | none => cases b <;> rfl
    | some u => cases hu : u.enabled <;> cases b <;> simp [hu]

theorem Room_has_user_eq (r : Room) (k : Key) : Room_has_user r k = r.hasUser k := by
  unfold Room_has_user Room.hasUser
  simp only [Auth_has_user_eq, forReturn_isSome, hmEntries, List.any_map, Function.comp_def]
  have e1 : ((mmEntries (fun (x : User) => x.key) r.admins).any fun entry => entry.2.any fun u => decide (k = u.key))
      = r.admins.any (fun x => decide (x.key = k)) := by
    rw [mmEntries_any]
    congr 1; funext u; exact Bool.eq_iff_iff.2 (by simp [eq_comm])
  rw [e1]
  cases (r.admins.any fun x => decide (x.key = k)) <;> cases (r.auths.any fun x => x.hasUser k) <;> rfl

end Discret.Gen.RoomKernel
