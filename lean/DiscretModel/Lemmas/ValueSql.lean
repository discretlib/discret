import DiscretModel.Model.Value
/-
Lemmas about the statement text of `Model/Value.lean` (`compile` / `sqlTokens`):
where spliced quoted text can come from.
-/
namespace Discret.Value

/-- the only text a filter can splice between quotes: a string default of its field -/
def Filter.splices (f : Filter) (s : List Char) : Prop := f.field.dflt = some (.str s)

def QField.splices (fld : QField) (s : List Char) : Prop :=
  match fld with
  | .scalar _ => False
  | .sub q => ∃ f ∈ q.filters, f.splices s

/-- the texts a query splices between quotes: String/Base64/Json defaults of filtered fields -/
def TopQ.splices (q : TopQ) (s : List Char) : Prop :=
  (∃ f ∈ q.filters, f.splices s) ∨ (∃ fld ∈ q.fields, fld.splices s)

variable {d : Defects} {s : List Char}

theorem defaultTok_not_quoted (ps : Params) (l : Lit) : Tok.quoted s ≠ (defaultTok d ps l).2 := by
  cases l <;> simp [defaultTok]

theorem selFieldToks_quoted (ps : Params) (table : String) (f : SelField) :
    Tok.quoted s ∉ (selFieldToks d ps table f).2 := by
  unfold selFieldToks
  split
  · simp
  · split <;> simp [defaultTok_not_quoted]

theorem filterValue_not_quoted (ps : Params) (op : String) (v : FVal) :
    Tok.quoted s ≠ (filterValue d ps op v).2.1 := by
  rcases v with x | l
  · simp [filterValue]
  · cases l <;> simp [filterValue]

theorem filterDefaultTok_quoted {ps : Params} {l : Lit} (h : (filterDefaultTok d ps l).2 = .quoted s) :
    d.defaultSpliced = true ∧ l = .str s := by
  cases l <;> simp [filterDefaultTok] at h
  split at h <;> simp_all

macro "mem_norm" " at " h:ident : tactic =>
  `(tactic| simp only [List.mem_append, List.mem_cons, List.mem_nil_iff, or_false, false_or, tab, reduceCtorEq,
      List.not_mem_nil] at $h:ident)

theorem filterToks_quoted {ps : Params} {t : Nat} {f : Filter} (h : Tok.quoted s ∈ (filterToks d ps t f).2) :
    d.defaultSpliced = true ∧ f.splices s := by
  unfold filterToks at h
  simp only at h
  split at h
  · simp [filterValue_not_quoted] at h
  · split at h
    · next dv hdv =>
      simp [tab, filterValue_not_quoted] at h
      obtain ⟨h1, h2⟩ := filterDefaultTok_quoted h.symm
      exact ⟨h1, by rw [Filter.splices, hdv, h2]⟩
    · simp [filterValue_not_quoted] at h

section
variable {A : Prop} {α : Type} {P : α → Prop} {a : α} {l : List α}

theorem exists_cons_head (h : A ∧ P a) : A ∧ ∃ x ∈ a :: l, P x := ⟨h.1, a, List.mem_cons_self, h.2⟩

theorem exists_cons_tail (h : A ∧ ∃ x ∈ l, P x) : A ∧ ∃ x ∈ a :: l, P x :=
  ⟨h.1, h.2.imp fun _ hx => ⟨List.mem_cons_of_mem _ hx.1, hx.2⟩⟩

end

theorem filtersLoop_quoted {t : Nat} {ps : Params} {fs : List Filter} (h : Tok.quoted s ∈ (filtersLoop d t ps fs).2) :
    d.defaultSpliced = true ∧ ∃ f ∈ fs, f.splices s := by
  induction ps, fs using filtersLoop.induct d t with
  | case1 ps => simp [filtersLoop] at h
  | case2 ps f => exact exists_cons_head (filterToks_quoted h)
  | case3 ps f rest hne r ih =>
    rw [filtersLoop.eq_3 d t ps f rest hne] at h
    mem_norm at h
    rcases h with h | h
    · exact exists_cons_head (filterToks_quoted h)
    · exact exists_cons_tail (ih h)

theorem whereFilters_quoted {ps : Params} {t : Nat} {fs : List Filter} (h : Tok.quoted s ∈ (whereFilters d ps t fs).2) :
    d.defaultSpliced = true ∧ ∃ f ∈ fs, f.splices s := by
  unfold whereFilters at h
  split at h
  · simp at h
  · mem_norm at h
    exact filtersLoop_quoted h

theorem selFieldsLoop_quoted (table : String) (t : Nat) (ps : Params) (fs : List SelField) :
    Tok.quoted s ∉ (selFieldsLoop d table t ps fs).2 := by
  induction ps, fs using selFieldsLoop.induct d table t with
  | case1 ps => simp [selFieldsLoop]
  | case2 ps f => simp [selFieldsLoop, tab, selFieldToks_quoted]
  | case3 ps f rest hne r ih =>
    rw [selFieldsLoop.eq_3 d table t ps f rest hne]
    simpa [tab, selFieldToks_quoted] using ih

theorem subEntityQuery_quoted {ps : Params} {q : SubQ} {parent : String} {t : Nat} {u : Bool}
    (h : Tok.quoted s ∈ (subEntityQuery d ps q parent t u).2) :
    d.defaultSpliced = true ∧ ∃ f ∈ q.filters, f.splices s := by
  simp [subEntityQuery, subFields, tab, selFieldsLoop_quoted] at h
  exact whereFilters_quoted h

theorem subGroupArray_quoted {ps : Params} {q : SubQ} {parent : String} {t : Nat}
    (h : Tok.quoted s ∈ (subGroupArray d ps q parent t).2) :
    d.defaultSpliced = true ∧ ∃ f ∈ q.filters, f.splices s := by
  simp [subGroupArray, tab] at h
  exact subEntityQuery_quoted h

theorem qFieldToks_quoted {ps : Params} {table : String} {t : Nat} {fld : QField}
    (h : Tok.quoted s ∈ (qFieldToks d ps table t fld).2) : d.defaultSpliced = true ∧ fld.splices s := by
  rcases fld with f | q
  · exact absurd h (selFieldToks_quoted ps table f)
  · simp only [qFieldToks] at h
    split at h <;> mem_norm at h
    · exact subGroupArray_quoted h
    · exact subEntityQuery_quoted h

theorem qFieldsLoop_quoted {table : String} {t : Nat} {ps : Params} {fs : List QField}
    (h : Tok.quoted s ∈ (qFieldsLoop d table t ps fs).2) : d.defaultSpliced = true ∧ ∃ fld ∈ fs, fld.splices s := by
  induction ps, fs using qFieldsLoop.induct d table t with
  | case1 ps => simp [qFieldsLoop] at h
  | case2 ps f =>
    rw [qFieldsLoop.eq_2] at h
    mem_norm at h
    exact exists_cons_head (qFieldToks_quoted h)
  | case3 ps f rest hne r ih =>
    rw [qFieldsLoop.eq_3 d table t ps f rest hne] at h
    mem_norm at h
    rcases h with h | h
    · exact exists_cons_head (qFieldToks_quoted h)
    · exact exists_cons_tail (ih h)

theorem existsLoop_quoted {table : String} {t : Nat} {ps : Params} {fs : List QField}
    (h : Tok.quoted s ∈ (existsLoop d table t ps fs).2) : d.defaultSpliced = true ∧ ∃ fld ∈ fs, fld.splices s := by
  induction ps, fs using existsLoop.induct d table t with
  | case1 ps => simp [existsLoop] at h
  | case2 ps f rest ih => exact exists_cons_tail (ih h)
  | case3 ps q rest hn ih =>
    rw [existsLoop.eq_3, if_pos hn] at h
    exact exists_cons_tail (ih h)
  | case4 ps q rest hn r ih =>
    rw [existsLoop.eq_3, if_neg hn] at h
    mem_norm at h
    rcases h with h | h
    · exact exists_cons_head (subEntityQuery_quoted h)
    · exact exists_cons_tail (ih h)

theorem sqlTokens_quoted {q : TopQ} (h : Tok.quoted s ∈ sqlTokens d q) : d.defaultSpliced = true ∧ q.splices s := by
  simp [sqlTokens, compile, entityQuery, tab] at h
  rcases h with h | h | h
  · exact (qFieldsLoop_quoted h).imp_right .inr
  · exact (existsLoop_quoted h).imp_right .inr
  · exact (whereFilters_quoted h).imp_right .inl

end Discret.Value
