import DiscretModel.Model.Sync
import DiscretModel.Lemmas.Basic
/-
The deletion records of one answer: one message keyed by row id (before the repair) or sub-batches in which every row
id occurs once (`GraphDatabaseService::delete_nodes`). Whatever the switch, only records of the answer are applied, one
after the other; with the repair every record of the answer is applied.
-/
namespace Discret.Sync
open Discret.DailyLog

theorem ite_both {α β : Type} (f : α → β) {Q : β → Prop} {c : Prop} [Decidable c] {a b : α} (ha : Q (f a))
    (hb : Q (f b)) : Q (f (if c then a else b)) := by
  split
  · exact ha
  · exact hb

theorem insertBy_eq_ordInsert {α : Type} (lt : α → α → Bool) : insertBy lt = ordInsert fun x y => !lt y x := by
  funext x l
  induction l with
  | nil => rfl
  | cons y t ih => cases h : lt y x <;> simp [insertBy, ordInsert, h, ih]

theorem sortBy_eq_insertionSort {α : Type} (lt : α → α → Bool) : sortBy lt = insertionSort fun x y => !lt y x := by
  funext l
  rw [sortBy, insertionSort, insertBy_eq_ordInsert]

theorem sortBy_perm {α : Type} (lt : α → α → Bool) (l : List α) : (sortBy lt l).Perm l :=
  sortBy_eq_insertionSort lt ▸ insertionSort_perm _ l

theorem mem_sortBy {α : Type} (lt : α → α → Bool) (y : α) (l : List α) : y ∈ sortBy lt l ↔ y ∈ l :=
  (sortBy_perm lt l).mem_iff

theorem findNode_some {r : Replica} {id ent : Nat} {n : Node} (h : r.findNode id ent = some n) :
    n ∈ r.nodes ∧ n.id = id ∧ n.ent = ent := by
  unfold Replica.findNode at h
  have := List.find?_some h
  simp only [Bool.and_eq_true, decide_eq_true_eq] at this
  exact ⟨List.mem_of_find?_eq_some h, this.1, this.2⟩

theorem mem_dedupById {x : NTomb} {l : List NTomb} (h : x ∈ dedupById l) : x ∈ l := by
  induction l with
  | nil => cases h
  | cons a t ih =>
    simp only [dedupById] at h
    split at h
    · exact List.mem_cons_of_mem _ (ih h)
    · rcases List.mem_cons.mp h with e | e
      · rw [e]; exact List.mem_cons_self
      · exact List.mem_cons_of_mem _ (ih e)

theorem mem_firstOfEachId (ts : List NTomb) : ∀ (seen : List Nat) (x : NTomb),
    x ∈ ts ↔ x ∈ (firstOfEachId ts seen).1 ∨ x ∈ (firstOfEachId ts seen).2 := by
  induction ts with
  | nil => intro seen x; simp [firstOfEachId]
  | cons t rest ih =>
    intro seen x
    simp only [firstOfEachId]
    split
    · simp only [List.mem_cons, ih seen x]
      exact or_left_comm
    · simp only [List.mem_cons, ih (t.id :: seen) x]
      exact or_assoc.symm

theorem length_leftOver_le (ts : List NTomb) : ∀ (seen : List Nat), (firstOfEachId ts seen).2.length ≤ ts.length := by
  induction ts with
  | nil => intro seen; exact Nat.le_refl 0
  | cons t rest ih =>
    intro seen
    simp only [firstOfEachId]
    split
    · exact Nat.succ_le_succ (ih seen)
    · exact Nat.le_succ_of_le (ih (t.id :: seen))

theorem mem_of_mem_subBatches : ∀ (fuel : Nat) (ts b : List NTomb) (x : NTomb),
    b ∈ subBatches fuel ts → x ∈ b → x ∈ ts := by
  intro fuel
  induction fuel with
  | zero => intro ts b x hb; cases hb
  | succ k ih =>
    intro ts b x hb hx
    simp only [subBatches] at hb
    split at hb
    · cases hb
    · rcases List.mem_cons.mp hb with e | e
      · rw [e] at hx; exact (mem_firstOfEachId ts [] x).mpr (Or.inl hx)
      · exact (mem_firstOfEachId ts [] x).mpr (Or.inr (ih _ b x e hx))

theorem mem_subBatches_flatten : ∀ (fuel : Nat) (ts : List NTomb), ts.length ≤ fuel → ∀ x,
    x ∈ (subBatches fuel ts).flatten ↔ x ∈ ts := by
  intro fuel
  induction fuel with
  | zero =>
    intro ts hl x
    have : ts = [] := List.eq_nil_of_length_eq_zero (by omega)
    subst this; simp [subBatches]
  | succ k ih =>
    intro ts hl x
    cases ts with
    | nil => simp [subBatches]
    | cons t rest =>
      -- the first pass takes `t`, so fewer than `k + 1` records are left over
      have hlt : (firstOfEachId (t :: rest) []).2.length ≤ rest.length := length_leftOver_le rest [t.id]
      simp only [subBatches, List.isEmpty_cons, Bool.false_eq_true, ↓reduceIte, List.flatten_cons, List.mem_append]
      rw [ih _ (Nat.le_trans hlt (Nat.le_of_succ_le_succ hl)) x]
      exact (mem_firstOfEachId (t :: rest) [] x).symm

theorem applyNTombs_induct (d : Defects) (rights : Rights) (ts : List NTomb) (P : Replica → Prop) (dst : Replica)
    (h0 : P dst) (hstep : ∀ r t, t ∈ ts → P r → P (applyNTomb d r t)) : P (applyNTombs d rights dst ts) := by
  unfold applyNTombs
  split
  · refine foldl_invariant P h0 ?_
    intro r t ht hr
    exact hstep r t (mem_dedupById (List.mem_filter.mp ht).1) hr
  · refine foldl_invariant P h0 ?_
    intro r b hb hr
    refine foldl_invariant P hr ?_
    intro r' t ht hr'
    exact hstep r' t (mem_of_mem_subBatches _ ts b t hb (List.mem_filter.mp ht).1) hr'

theorem applyNTombs_all (d : Defects) (hK : d.deletionBatchKeyedById = false) (rights : Rights)
    (hall : ∀ r l, validNTombs rights r l = l) (dst : Replica) (ts : List NTomb) :
    applyNTombs d rights dst ts = ((subBatches ts.length ts).flatten).foldl (applyNTomb d) dst := by
  unfold applyNTombs
  simp only [hK, Bool.false_eq_true, ↓reduceIte, hall]
  rw [List.foldl_flatten]

end Discret.Sync
