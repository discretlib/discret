import DiscretModel.Lemmas.Ingest
/-
C02: every difference between the tables before and after a synchronised day is accounted for
by a received record that was entitled to cause it (for any setting `d` of the switches, in the switch-indexed form
`…OkD d`); under the guard of `d` on the batch (`dayGuardD`), or when the switches of a kind are off (`rowsChecked`,
`refsChecked`), in the plain form `…Ok` (`rows_guarded`, `refs_guarded`).
-/
namespace Discret.Ingest
open Discret.Room (Key Ent RightType)

theorem st2_nodes_sub {d : Defects} {s : Inst} {room : Nat} {b : Batch} {x : NodeRow}
    (hx : x ∈ (st2 d s room b).nodes) : x ∈ s.nodes := by
  have h := (deleteNodes_sublist d (st1 d s room b) (keepNodeDels d room b.nodeDels)).subset hx
  rw [st1_nodes] at h
  exact h

theorem hasRight_of_rooms {s si : Inst} (h : si.rooms = s.rooms) {r : Nat} {k : Key} {e : Ent} {dt : Int} {rt : RightType}
    (hr : HasRight si r k e dt rt) : HasRight s r k e dt rt := by
  rw [← canIn_iff] at hr ⊢
  unfold canIn findRoom at hr ⊢
  rwa [← h]

/-- row ids are unique, so a row found at a record's turn is the row of that id in the tables of the stage -/
theorem Turn.localRow {s si : Inst} (hn : NodupIds s.nodes) (ht : Turn s si) {id : Nat} {l : NodeRow}
    (h : localRow si.nodes id = some l) : localRow s.nodes id = some l := by
  have hm := localRow_some h
  rw [← hm.2]
  exact localRow_of_mem hn (ht.2.subset hm.1)

theorem NodeDelOkD.of_turn {d : Defects} {s si : Inst} {room : Nat} {r : InNodeDel} {x : NodeRow}
    (hn : NodupIds s.nodes) (ht : Turn s si) (hx : x ∈ si.nodes) (hid : x.id = r.entry.id)
    (h : NodeDelOkD d si room r) : NodeDelOkD d s room r := by
  have hni : NodupIds si.nodes := List.Nodup.sublist (List.Sublist.map _ ht.2) hn
  have e1 : localRow si.nodes r.entry.id = some x := by rw [← hid]; exact localRow_of_mem hni hx
  have e2 := ht.localRow hn e1
  -- the lookup of the row gives `x` in both tables
  refine ⟨h.sig, h.inRoom, h.known, h.data, ?_, ?_⟩ <;> rw [e2, ← e1]
  · exact h.sameEntity
  · exact hasRight_of_rooms ht.1 h.right

theorem day_new_in_rowStage {d : Defects} {s : Inst} {room : Nat} {b : Batch} {x : NodeRow}
    (hx : x ∈ (syncDay d s room b).1.nodes) (hnew : x ∉ s.nodes) :
    (∀ n ∈ b.nodes, n.sigOk = true) ∧ x ∈ (st3 d s room b).nodes ∧ x ∉ (st2 d s room b).nodes := by
  have hn2 : x ∉ (st2 d s room b).nodes := fun h => hnew (st2_nodes_sub h)
  rcases (syncDay_tables d s room b).nodes with h | ⟨_, h | ⟨h3, h⟩⟩ <;> rw [h] at hx
  · exact absurd hx hnew
  · exact absurd hx hn2
  · exact ⟨h3, hx, hn2⟩

theorem day_new_rows {d : Defects} {s : Inst} {room : Nat} {b : Batch} {x : NodeRow}
    (hx : x ∈ (syncDay d s room b).1.nodes) (hnew : x ∉ s.nodes) :
    ∃ n ∈ b.nodes, n.row = x ∧ NodeOkD d (st2 d s room b) room n := by
  obtain ⟨h3, hx3, hn2⟩ := day_new_in_rowStage hx hnew
  exact nodeStage_new h3 hx3 hn2

theorem day_removed_rows {d : Defects} {s : Inst} {room : Nat} {b : Batch} {x : NodeRow}
    (hn : NodupIds s.nodes) (hx : x ∈ s.nodes) (hgone : x ∉ (syncDay d s room b).1.nodes) :
    (∃ r ∈ b.nodeDels, x.room = some r.entry.room ∧ x.id = r.entry.id ∧ NodeDelOkD d (st1 d s room b) room r) ∨
    (∃ n ∈ b.nodes, n.row.id = x.id ∧ localRow (st2 d s room b).nodes n.row.id = some x ∧
      NodeOkD d (st2 d s room b) room n) := by
  have viaDel : (∀ r ∈ keepNodeDels d room b.nodeDels, r.sigOk = true) → x ∉ (st2 d s room b).nodes →
      ∃ r ∈ b.nodeDels, x.room = some r.entry.room ∧ x.id = r.entry.id ∧ NodeDelOkD d (st1 d s room b) room r := by
    intro h2 hg
    obtain ⟨r, hr, si, hti, hxi, hacc, e1, e2⟩ := (deleteNodes_sound d (st1 d s room b) _).removed x
      (st1_nodes d s room b ▸ hx) hg
    have hok := nodeDelAccepted_sound (h2 r hr) (keepNodeDels_sub hr).2 hacc
    exact ⟨r, (keepNodeDels_sub hr).1, e1, e2, hok.of_turn (st1_nodup hn) hti hxi e2⟩
  rcases (syncDay_tables d s room b).nodes with h | ⟨h2, h | ⟨h3, h⟩⟩ <;> rw [h] at hgone
  · exact absurd hx hgone
  · exact Or.inl (viaDel h2 hgone)
  · by_cases h : x ∈ (st2 d s room b).nodes
    · exact Or.inr (nodeStage_removed (st2_nodup hn) h3 h hgone)
    · exact Or.inl (viaDel h2 h)

theorem st1_edges_sub {d : Defects} {s : Inst} {room : Nat} {b : Batch} {x : EdgeRow}
    (hx : x ∈ (st1 d s room b).edges) : x ∈ s.edges :=
  deleteEdges_edges_sub hx

theorem day_new_refs {d : Defects} {s : Inst} {room : Nat} {b : Batch} {x : EdgeRow}
    (hx : x ∈ (syncDay d s room b).1.edges) (hnew : x ∉ s.edges) :
    ∃ e ∈ b.edges, e.row = x ∧ ∃ prev, EdgeOkD d (st3 d s room b) room prev e ∧
      ∀ p, prev = some p → edgeKeyEq e.row p = true ∧ p ∈ (st3 d s room b).edges ++ b.edges.map (·.row) := by
  have hn1 : x ∉ (st1 d s room b).edges := fun h => hnew (st1_edges_sub h)
  rcases (syncDay_tables d s room b).edges with h | ⟨_, h | ⟨h4, h⟩⟩ <;> rw [h] at hx
  · exact absurd hx hnew
  · exact absurd hx hn1
  · obtain ⟨e, he, hrow, table, hj⟩ := addEdgesLoop_new hx (st3_edges d s room b ▸ hn1)
    exact ⟨e, he, hrow, _, hj.sound (h4 e he)⟩

theorem day_removed_refs {d : Defects} {s : Inst} {room : Nat} {b : Batch} {x : EdgeRow}
    (hx : x ∈ s.edges) (hgone : x ∉ (syncDay d s room b).1.edges) :
    (∃ r ∈ b.edgeDels, edgeMatches r.entry x = true ∧ EdgeDelOkD d s room r) ∨
    (∃ e ∈ b.edges, edgeKeyEq e.row x = true ∧ ∃ p, edgeKeyEq e.row p = true ∧
      EdgeOkD d (st3 d s room b) room (some p) e ∧ p ∈ (st3 d s room b).edges ++ b.edges.map (·.row)) := by
  have viaDel : (∀ r ∈ keepEdgeDels d room b.edgeDels, r.sigOk = true) → x ∉ (st1 d s room b).edges →
      ∃ r ∈ b.edgeDels, edgeMatches r.entry x = true ∧ EdgeDelOkD d s room r := by
    intro h1 hg
    obtain ⟨r, hr, hacc, hm⟩ := deleteEdges_removed hx hg
    exact ⟨r, (keepEdgeDels_sub hr).1, hm, edgeDelAccepted_sound (h1 r hr) (keepEdgeDels_sub hr).2 hacc⟩
  rcases (syncDay_tables d s room b).edges with h | ⟨h1, h | ⟨h4, h⟩⟩ <;> rw [h] at hgone
  · exact absurd hx hgone
  · exact Or.inl (viaDel h1 hgone)
  · by_cases hin : x ∈ (st1 d s room b).edges
    · obtain ⟨e, he, hk, table, hj, hxt⟩ := addEdgesLoop_removed (st3_edges d s room b ▸ hin) hgone
      cases hf : table.find? (edgeKeyEq e.row) with
      | none => exact absurd hk (List.find?_eq_none.mp hf x hxt)
      | some p =>
        obtain ⟨hok, hp⟩ := hj.sound (h4 e he)
        exact Or.inr ⟨e, he, hk, p, (hp p hf).1, hf ▸ hok, (hp p hf).2⟩
    · exact Or.inl (viaDel h1 hin)

theorem day_new_node_log {d : Defects} {s : Inst} {room : Nat} {b : Batch} {t : NodeDel}
    (ht : t ∈ (syncDay d s room b).1.nodeLog) (hnew : t ∉ s.nodeLog) :
    ∃ r ∈ b.nodeDels, r.entry = t ∧ ∃ si, Turn (st1 d s room b) si ∧ NodeDelOkD d si room r := by
  rcases (syncDay_tables d s room b).nodeLog with h | ⟨h2, h⟩ <;> rw [h] at ht
  · exact absurd ht hnew
  · obtain ⟨r, hr, si, hti, hacc, hrt⟩ := (deleteNodes_sound d (st1 d s room b) _).logged t ht
      (st1_nodeLog d s room b ▸ hnew)
    exact ⟨r, (keepNodeDels_sub hr).1, hrt, si, hti, nodeDelAccepted_sound (h2 r hr) (keepNodeDels_sub hr).2 hacc⟩

theorem day_new_edge_log {d : Defects} {s : Inst} {room : Nat} {b : Batch} {t : EdgeDel}
    (ht : t ∈ (syncDay d s room b).1.edgeLog) (hnew : t ∉ s.edgeLog) :
    ∃ r ∈ b.edgeDels, r.entry = t ∧ EdgeDelOkD d s room r := by
  rcases (syncDay_tables d s room b).edgeLog with h | ⟨h1, h⟩ <;> rw [h] at ht
  · exact absurd ht hnew
  · obtain ⟨r, hr, hacc, hrt⟩ := deleteEdges_logged ht hnew
    exact ⟨r, (keepEdgeDels_sub hr).1, hrt, edgeDelAccepted_sound (h1 r hr) (keepEdgeDels_sub hr).2 hacc⟩

theorem edgeStage_single (d : Defects) (s : Inst) (room : Nat) (e : InEdge) :
    (edgeStage d s room [e]).1 =
      if edgeAccepted d s room s.edges e then { s with edges := writeEdge s.edges e.row } else s := by
  unfold edgeStage addEdgesLoop
  cases h : edgeAccepted d s room s.edges e <;> simp [addEdgesLoop]

theorem deleteNodes_single (d : Defects) (s : Inst) (r : InNodeDel) :
    deleteNodes d s [r] = if nodeDelAccepted d s r.entry then applyNodeDel s r.entry else s := by
  unfold deleteNodes
  simp only [List.length_singleton, deleteNodesLoop, splitFirst, List.contains_nil, Bool.false_eq_true, if_false,
    List.isEmpty_nil, if_true, deleteBatch]
  cases h : nodeDelAccepted d s r.entry <;> simp [h]

theorem deleteEdges_single (d : Defects) (s : Inst) (r : InEdgeDel) :
    deleteEdges d s [r] = if edgeDelAccepted d s r.entry then applyEdgeDel s r.entry else s := by
  unfold deleteEdges
  cases h : edgeDelAccepted d s r.entry <;> simp [h]

/-- no record of the batch has one of the shapes that the setting `d` of the switches leaves unchecked;
    every record is judged against the tables its stage sees -/
def dayGuardD (d : Defects) (s : Inst) (room : Nat) (b : Batch) : Bool :=
  b.edgeDels.all (edgeDelGuardD d s room) &&
  b.nodeDels.all (nodeDelGuardD d (st1 d s room b) room) &&
  b.nodes.all (nodeGuardD d (st2 d s room b)) &&
  b.edges.all (edgeGuardD d (st3 d s room b) room ((st3 d s room b).edges ++ b.edges.map (·.row)))

def dayGuard (s : Inst) (room : Nat) (b : Batch) : Bool := dayGuardD Defects.asImplemented s room b

/-- the guard that was needed before /repo 37a7f03, e73c9e7 and 4dd7eb7 -/
def dayGuardBeforeFixes (s : Inst) (room : Nat) (b : Batch) : Bool := dayGuardD Defects.beforeFixes s room b

theorem dayGuardD_none (s : Inst) (room : Nat) (b : Batch) : dayGuardD Defects.none s room b = true := by
  simp [dayGuardD, edgeDelGuardD_none, nodeDelGuardD_none, nodeGuardD_none, edgeGuardD_none]

theorem nodeDelGuardD_turn {d : Defects} {s si : Inst} {room : Nat} {r : InNodeDel} (hn : NodupIds s.nodes)
    (ht : Turn s si) (g : nodeDelGuardD d s room r = true) : nodeDelGuardD d si room r = true := by
  unfold nodeDelGuardD at g ⊢
  simp only [Bool.and_eq_true] at g ⊢
  refine ⟨g.1, ?_⟩
  rcases sw_or g.2 with h | h
  · simp [h]
  · cases hl : localRow si.nodes r.entry.id with
    | none => simp
    | some l =>
      rw [ht.localRow hn hl] at h
      simp only [Bool.or_eq_true, Bool.not_eq_true']
      exact Or.inr h

/-- every check that bears on a received row or node deletion record is in place -/
def Defects.rowsChecked (d : Defects) : Bool :=
  !(d.authEntityUnchecked || d.jsonAbsentUnchecked || d.entityChangeUnchecked || d.roomlessReplaceUnchecked ||
    d.delRoomUnchecked || d.delEntityUnchecked)

/-- every check that bears on a received reference or reference deletion record is in place -/
def Defects.refsChecked (d : Defects) : Bool :=
  !(d.authEntityUnchecked || d.edgeSourceUnchecked || d.edgeReplaceUnchecked || d.delRoomUnchecked ||
    d.edgeDelSourceUnchecked)

theorem nodeGuardD_of_checked {d : Defects} (c : d.rowsChecked = true) (s : Inst) (n : InNode) :
    nodeGuardD d s n = true := by
  simp only [Defects.rowsChecked, Bool.not_eq_true', Bool.or_eq_false_iff] at c
  unfold nodeGuardD
  cases localRow s.nodes n.row.id <;> simp [c]

theorem nodeDelGuardD_of_checked {d : Defects} (c : d.rowsChecked = true) (s : Inst) (room : Nat) (r : InNodeDel) :
    nodeDelGuardD d s room r = true := by
  simp only [Defects.rowsChecked, Bool.not_eq_true', Bool.or_eq_false_iff] at c
  simp [nodeDelGuardD, c]

theorem edgeDelGuardD_of_checked {d : Defects} (c : d.refsChecked = true) (s : Inst) (room : Nat) (r : InEdgeDel) :
    edgeDelGuardD d s room r = true := by
  simp only [Defects.refsChecked, Bool.not_eq_true', Bool.or_eq_false_iff] at c
  simp [edgeDelGuardD, c]

theorem edgeGuardD_of_checked {d : Defects} (c : d.refsChecked = true) (s : Inst) (room : Nat) (o : List EdgeRow)
    (e : InEdge) : edgeGuardD d s room o e = true := by
  simp only [Defects.refsChecked, Bool.not_eq_true', Bool.or_eq_false_iff] at c
  simp [edgeGuardD, c]

theorem node_log_guarded (d : Defects) (s : Inst) (room : Nat) (b : Batch)
    (gD : ∀ r ∈ b.nodeDels, ∀ si, Turn (st1 d s room b) si → nodeDelGuardD d si room r = true) :
    ∀ t ∈ (syncDay d s room b).1.nodeLog, t ∉ s.nodeLog →
      ∃ r ∈ b.nodeDels, r.entry = t ∧ ∃ si, Turn (st1 d s room b) si ∧ NodeDelOk si room r := by
  intro t ht hnew
  obtain ⟨r, hr, he, si, hti, hok⟩ := day_new_node_log ht hnew
  exact ⟨r, hr, he, si, hti, hok.guarded (gD r hr si hti)⟩

theorem rows_guarded (d : Defects) (s : Inst) (room : Nat) (b : Batch) (hn : NodupIds s.nodes)
    (gN : ∀ n ∈ b.nodes, nodeGuardD d (st2 d s room b) n = true)
    (gD : ∀ r ∈ b.nodeDels, ∀ si, Turn (st1 d s room b) si → nodeDelGuardD d si room r = true) :
    (∀ x ∈ (syncDay d s room b).1.nodes, x ∉ s.nodes →
      ∃ n ∈ b.nodes, n.row = x ∧ NodeOk (st2 d s room b) room n) ∧
    (∀ x ∈ s.nodes, x ∉ (syncDay d s room b).1.nodes →
      (∃ r ∈ b.nodeDels, x.room = some r.entry.room ∧ x.id = r.entry.id ∧
        NodeDelOk (st1 d s room b) room r) ∨
      (∃ n ∈ b.nodes, n.row.id = x.id ∧ localRow (st2 d s room b).nodes n.row.id = some x ∧
        NodeOk (st2 d s room b) room n)) ∧
    (∀ t ∈ (syncDay d s room b).1.nodeLog, t ∉ s.nodeLog →
      ∃ r ∈ b.nodeDels, r.entry = t ∧ ∃ si, Turn (st1 d s room b) si ∧ NodeDelOk si room r) := by
  refine ⟨fun x hx hnew => ?_, fun x hx hgone => ?_, node_log_guarded d s room b gD⟩
  · obtain ⟨n, hn', hrow, hok⟩ := day_new_rows hx hnew
    exact ⟨n, hn', hrow, hok.guarded (gN n hn')⟩
  · rcases day_removed_rows hn hx hgone with ⟨r, hr, h1, h2, hok⟩ | ⟨n, hn', h1, h2, hok⟩
    · exact Or.inl ⟨r, hr, h1, h2, hok.guarded (gD r hr _ (Turn.refl _))⟩
    · exact Or.inr ⟨n, hn', h1, h2, hok.guarded (gN n hn')⟩

theorem refs_guarded (d : Defects) (s : Inst) (room : Nat) (b : Batch)
    (gX : ∀ r ∈ b.edgeDels, edgeDelGuardD d s room r = true)
    (gE : ∀ e ∈ b.edges,
      edgeGuardD d (st3 d s room b) room ((st3 d s room b).edges ++ b.edges.map (·.row)) e = true) :
    (∀ x ∈ (syncDay d s room b).1.edges, x ∉ s.edges →
      ∃ e ∈ b.edges, e.row = x ∧ ∃ prev, EdgeOk (st3 d s room b) room prev e ∧
        ∀ p, prev = some p → edgeKeyEq e.row p = true) ∧
    (∀ x ∈ s.edges, x ∉ (syncDay d s room b).1.edges →
      (∃ r ∈ b.edgeDels, edgeMatches r.entry x = true ∧ EdgeDelOk s room r) ∨
      (∃ e ∈ b.edges, edgeKeyEq e.row x = true ∧ ∃ p, edgeKeyEq e.row p = true ∧
        EdgeOk (st3 d s room b) room (some p) e)) ∧
    (∀ t ∈ (syncDay d s room b).1.edgeLog, t ∉ s.edgeLog →
      ∃ r ∈ b.edgeDels, r.entry = t ∧ EdgeDelOk s room r) := by
  refine ⟨fun x hx hnew => ?_, fun x hx hgone => ?_, fun t ht hnew => ?_⟩
  · obtain ⟨e, he, hrow, prev, hok, hp⟩ := day_new_refs hx hnew
    exact ⟨e, he, hrow, prev, hok.guarded (gE e he) hp, fun p h => (hp p h).1⟩
  · rcases day_removed_refs hx hgone with ⟨r, hr, hm, hok⟩ | ⟨e, he, hk, p, hp, hok, hm⟩
    · exact Or.inl ⟨r, hr, hm, hok.guarded (gX r hr)⟩
    · exact Or.inr ⟨e, he, hk, p, hp, hok.guarded (gE e he) fun q hq => by cases hq; exact ⟨hp, hm⟩⟩
  · obtain ⟨r, hr, he, hok⟩ := day_new_edge_log ht hnew
    exact ⟨r, hr, he, hok.guarded (gX r hr)⟩

end Discret.Ingest
