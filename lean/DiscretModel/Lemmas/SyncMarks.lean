import DiscretModel.Lemmas.DailyLogRun
import DiscretModel.Lemmas.SyncBatches
/-
C09 on the replica model: with the switches for a missing mark off, every write of the model marks every
`(room, entity, day)` whose stored signatures it changes; hence local writes, ingested rows and ingested deletion
records preserve the daily-log invariant `WInv`.
-/
namespace Discret.Sync
open Discret.DailyLog

def part {α : Type} (key : α → Key) (sg : α → Sig) (l : List α) (k : Key) : List Sig :=
  (l.filter fun x => key x = k).map sg

def nKey (n : Node) : Key := kNode n.room n.ent n.mdate
def tKey (t : NTomb) : Key := kNode t.room t.ent t.ddate
def xKey (t : ETomb) : Key := kNode t.room 0 t.ddate

theorem kNode_eq_iff (a b t room ent day : Nat) :
    kNode a b t = { room, ent, day } ↔ (a = room ∧ b = ent) ∧ dayOf t = day := by
  constructor
  · intro h; injection h with h1 h2 h3; exact ⟨⟨h1, h2⟩, h3⟩
  · rintro ⟨⟨h1, h2⟩, h3⟩; subst h1 h2 h3; rfl

theorem sigs_eq_parts (r : Replica) (room ent day : Nat) :
    r.sigs room ent day =
      part tKey (·.sig) r.ntombs { room, ent, day } ++ part xKey (·.sig) r.etombs { room, ent, day } ++
        part nKey (·.sig) r.nodes { room, ent, day } := by
  simp only [Replica.sigs, part, tKey, xKey, nKey, kNode_eq_iff, Bool.decide_and, eq_comm (a := 0)]

section part
variable {α : Type} (key : α → Key) (sg : α → Sig)

theorem part_concat_ne (l : List α) {x : α} {k : Key} (h : key x ≠ k) : part key sg (l ++ [x]) k = part key sg l k := by
  simp [part, List.filter_append, h]

theorem part_cons (a : α) (t : List α) (k : Key) :
    part key sg (a :: t) k = (if key a = k then [sg a] else []) ++ part key sg t k := by
  unfold part
  rw [List.filter_cons]
  by_cases h : key a = k <;> simp [h]

theorem part_map (f : α → α) (l : List α) (k : Key)
    (h : ∀ x ∈ l, f x = x ∨ (key x ≠ k ∧ key (f x) ≠ k)) : part key sg (l.map f) k = part key sg l k := by
  induction l with
  | nil => rfl
  | cons a t ih =>
    have iht := ih (fun x hx => h x (List.mem_cons_of_mem _ hx))
    rw [List.map_cons, part_cons, part_cons, iht]
    rcases h a List.mem_cons_self with e | ⟨e1, e2⟩
    · rw [e]
    · simp only [e1, e2, ↓reduceIte]

theorem part_filter (p : α → Bool) (l : List α) (k : Key) (h : ∀ x ∈ l, p x = false → key x ≠ k) :
    part key sg (l.filter p) k = part key sg l k := by
  induction l with
  | nil => rfl
  | cons a t ih =>
    have iht := ih (fun x hx => h x (List.mem_cons_of_mem _ hx))
    cases hp : p a with
    | true => rw [List.filter_cons_of_pos hp, part_cons, part_cons, iht]
    | false =>
      have := h a List.mem_cons_self hp
      rw [List.filter_cons_of_neg (by simp [hp]), part_cons, iht]
      simp only [this, ↓reduceIte, List.nil_append]

end part

def IdsNodup (r : Replica) : Prop := (r.nodes.map (·.id)).Nodup

theorem replace_part {l : List Node} (hn : (l.map (·.id)).Nodup) {old : Node} (ho : old ∈ l) (n : Node) (hid : n.id = old.id)
    (k : Key) (h1 : k ≠ nKey old) (h2 : k ≠ nKey n) :
    part nKey (·.sig) (replaceNode n l) k = part nKey (·.sig) l k := by
  unfold replaceNode
  apply part_map
  intro x hx
  by_cases e : x.id = n.id
  · right
    have : x = old := eq_of_nodup_map hn hx ho (e.trans hid)
    simp only [e, ↓reduceIte]
    exact ⟨by rw [this]; exact fun z => h1 z.symm, fun z => h2 z.symm⟩
  · left; simp [e]

/-- the shape of `putNTomb` and `putETomb` (`INSERT OR REPLACE`) -/
theorem part_put {α : Type} (key : α → Key) (sg : α → Sig) (same : α → Bool) (t : α) (l : List α) (k : Key)
    (h : k ≠ key t) (hs : ∀ x, same x = true → key x = key t) :
    part key sg (if l.any same then l.map fun x => if same x then t else x else l ++ [t]) k = part key sg l k := by
  split
  · apply part_map
    intro x _
    by_cases e : same x = true
    · exact Or.inr ⟨hs x e ▸ fun z => h z.symm, by rw [if_pos e]; exact fun z => h z.symm⟩
    · exact Or.inl (if_neg e)
  · exact part_concat_ne key sg l fun z => h z.symm

theorem putNTomb_part (t : NTomb) (l : List NTomb) (k : Key) (h : k ≠ tKey t) :
    part tKey (·.sig) (putNTomb t l) k = part tKey (·.sig) l k :=
  part_put tKey (·.sig) t.samePk t l k h fun x e => by
    simp only [NTomb.samePk, Bool.and_eq_true, decide_eq_true_eq] at e
    simp only [tKey, kNode, e.1.1.1, e.1.1.2, e.2]

theorem putETomb_part (t : ETomb) (l : List ETomb) (k : Key) (h : k ≠ xKey t) :
    part xKey (·.sig) (putETomb t l) k = part xKey (·.sig) l k :=
  part_put xKey (·.sig) t.samePk t l k h fun x e => by
    simp only [ETomb.samePk, Bool.and_eq_true, decide_eq_true_eq] at e
    simp only [xKey, kNode, e.1.1.1, e.1.1.2]

theorem foldl_preserves' {α β : Type} (P : β → Prop) (l : List α) (f : β → α → β) (b : β) (hb : P b)
    (hf : ∀ b a, P b → P (f b a)) : P (l.foldl f b) :=
  foldl_invariant P hb fun b a _ => hf b a

def Covers (r r' : Replica) (marks : List Key) : Prop :=
  ∀ room ent day, r'.sigs room ent day ≠ r.sigs room ent day → ({ room, ent, day } : Key) ∈ marks

theorem covers_refl (r : Replica) (marks : List Key) : Covers r r marks := fun _ _ _ h => absurd rfl h

theorem covers_of_parts {r r' : Replica} {marks : List Key}
    (h : ∀ k, k ∉ marks → part tKey (·.sig) r'.ntombs k = part tKey (·.sig) r.ntombs k ∧
      part xKey (·.sig) r'.etombs k = part xKey (·.sig) r.etombs k ∧
      part nKey (·.sig) r'.nodes k = part nKey (·.sig) r.nodes k) : Covers r r' marks := by
  intro room ent day hne
  by_cases hm : ({ room, ent, day } : Key) ∈ marks
  · exact hm
  · exfalso
    apply hne
    obtain ⟨a, b, c⟩ := h _ hm
    rw [sigs_eq_parts, sigs_eq_parts, a, b, c]

theorem covers_replace {cur : Replica} (hn : IdsNodup cur) {old : Node} (ho : old ∈ cur.nodes) {n : Node}
    (hid : n.id = old.id) {marks : List Key} (hold : nKey old ∈ marks) (hnew : nKey n ∈ marks) (edges : List Edge)
    {etombs : List ETomb} (het : ∀ k, k ∉ marks → part xKey (·.sig) etombs k = part xKey (·.sig) cur.etombs k) :
    Covers cur { cur with nodes := replaceNode n cur.nodes, edges := edges, etombs := etombs } marks :=
  covers_of_parts fun k hk =>
    ⟨rfl, het k hk, replace_part hn ho n hid k (fun e => hk (e ▸ hold)) (fun e => hk (e ▸ hnew))⟩

/-! Each write of the model is planned on the state it is applied to (`cur cur`); a reference deletion, on a snapshot
that shows the row the state holds. -/

theorem opNew_covers (cur : Replica) (p row room ent val sig now : Nat) :
    Covers cur (opNew cur p row room ent val sig now).cur (opNew cur p row room ent val sig now).marks :=
  covers_of_parts fun _ hk =>
    ⟨rfl, rfl, part_concat_ne nKey (·.sig) cur.nodes fun e => hk (e ▸ List.mem_singleton.mpr rfl)⟩

theorem opUpd_covers {cur : Replica} (hn : IdsNodup cur) (rights : Rights) (p row ent val sig : Nat)
    (room : Option Nat) (now : Nat) :
    Covers cur (opUpd rights cur cur p row ent val sig room now).cur
      (opUpd rights cur cur p row ent val sig room now).marks ∧
    (opUpd rights cur cur p row ent val sig room now).cur.log = cur.log := by
  unfold opUpd
  cases ho : cur.findNode row ent with
  | none => exact ⟨covers_refl _ _, rfl⟩
  | some old =>
    obtain ⟨hm, hid, hent⟩ := findNode_some ho
    dsimp only
    by_cases hcan : (!can rights p (decide (old.author = p)) now) = true
    · rw [if_pos hcan]; exact ⟨covers_refl _ _, rfl⟩
    · rw [if_neg hcan]
      refine ⟨covers_replace hn hm (hid := ?_) (hold := ?_) (hnew := ?_) _ (het := ?_), rfl⟩
      · rfl
      · exact List.mem_cons_of_mem _ List.mem_cons_self
      · rw [← hent]; exact List.mem_cons_self
      · exact fun _ _ => rfl

theorem opRef_covers {cur : Replica} (hn : IdsNodup cur) (rights : Rights) (p row to sig now : Nat) :
    Covers cur (opRef rights cur cur p row to sig now).cur (opRef rights cur cur p row to sig now).marks ∧
    (opRef rights cur cur p row to sig now).cur.log = cur.log := by
  unfold opRef
  cases ho : cur.findNode row 0 with
  | none => exact ⟨covers_refl _ _, rfl⟩
  | some old =>
    obtain ⟨hm, hid, hent⟩ := findNode_some ho
    dsimp only
    cases cur.findNode to 0 with
    | none => exact ⟨covers_refl _ _, rfl⟩
    | some tgt =>
      dsimp only
      by_cases hany : (cur.edges.any fun e => e.src = row && e.dest = to) = true
      · rw [if_pos hany]; exact ⟨covers_refl _ _, rfl⟩
      · rw [if_neg hany]
        by_cases hcan : (!can rights p (decide (old.author = p)) now) = true
        · rw [if_pos hcan]; exact ⟨covers_refl _ _, rfl⟩
        · rw [if_neg hcan]
          refine ⟨covers_replace hn hm (hid := ?_) (hold := ?_) (hnew := ?_) _ (het := ?_), rfl⟩
          · rfl
          · exact List.mem_cons_of_mem _ (List.mem_cons_of_mem _ List.mem_cons_self)
          · rw [show (0 : Nat) = old.ent from hent.symm]; exact List.mem_cons_of_mem _ List.mem_cons_self
          · exact fun _ _ => rfl

theorem replaceNode_ids (n : Node) (l : List Node) : (replaceNode n l).map (·.id) = l.map (·.id) :=
  map_key_replace Node.id l n

theorem mem_replaceNode_of_ne {n x : Node} {l : List Node} (hx : x ∈ l) (hne : x.id ≠ n.id) : x ∈ replaceNode n l :=
  List.mem_map.mpr ⟨x, hx, if_neg hne⟩

theorem opUnref_covers {snap cur : Replica} (hn : IdsNodup cur) {d : Defects} (hd : d.refDeletionUnmarked = false)
    (rights : Rights) (p row to sig dsig now : Nat)
    (hs : ∀ old, snap.findNode row 0 = some old → old ∈ cur.nodes) :
    Covers cur (opUnref d rights snap cur p row to sig dsig now).cur
      (opUnref d rights snap cur p row to sig dsig now).marks ∧
    (opUnref d rights snap cur p row to sig dsig now).cur.log = cur.log ∧
    (opUnref d rights snap cur p row to sig dsig now).cur.nodes.map (·.id) = cur.nodes.map (·.id) ∧
    ∀ x ∈ cur.nodes, x.id ≠ row → x ∈ (opUnref d rights snap cur p row to sig dsig now).cur.nodes := by
  have hsame : Covers cur cur [] ∧ cur.log = cur.log ∧ cur.nodes.map (·.id) = cur.nodes.map (·.id) ∧
      ∀ x ∈ cur.nodes, x.id ≠ row → x ∈ cur.nodes := ⟨covers_refl _ _, rfl, rfl, fun _ hx _ => hx⟩
  unfold opUnref
  cases ho : snap.findNode row 0 with
  | none => exact hsame
  | some old =>
    obtain ⟨_, hid, hent⟩ := findNode_some ho
    have hm := hs old ho
    have hrest : ∀ (n : Node), n.id = row → (replaceNode n cur.nodes).map (·.id) = cur.nodes.map (·.id) ∧
        ∀ x ∈ cur.nodes, x.id ≠ row → x ∈ replaceNode n cur.nodes :=
      fun n e => ⟨replaceNode_ids n _, fun x hx hne => mem_replaceNode_of_ne hx (e ▸ hne)⟩
    have k1 : nKey old = kNode old.room 0 old.mdate := by rw [nKey, hent]
    have k2 : nKey { old with mdate := now, author := p, sig := sig } = kNode old.room 0 now := by
      show kNode old.room old.ent now = _
      rw [hent]
    dsimp only
    rw [hd, if_neg Bool.false_ne_true]
    cases snap.edges.find? (fun e => e.src = row && e.dest = to) with
    | none =>
      dsimp only
      by_cases ht : d.refDeletionTouchesRowWithoutRef = true
      · rw [if_pos ht]
        refine ⟨covers_replace hn hm (hid := ?_) (hold := ?_) (hnew := ?_) _ (het := ?_), rfl, hrest _ hid⟩
        · rfl
        · rw [k1]; exact List.mem_cons_of_mem _ List.mem_cons_self
        · rw [k2]; exact List.mem_cons_self
        · exact fun _ _ => rfl
      · rw [if_neg ht]; exact hsame
    | some e =>
      dsimp only
      by_cases hcan : (!can rights p (decide (e.author = p)) now) = true
      · rw [if_pos hcan]; exact hsame
      · rw [if_neg hcan]
        refine ⟨covers_replace hn hm (hid := ?_) (hold := ?_) (hnew := ?_) _ (het := ?_), rfl, hrest _ hid⟩
        · rfl
        · rw [k1]; exact List.mem_cons_of_mem _ (List.mem_cons_of_mem _ List.mem_cons_self)
        · rw [k2]; exact List.mem_cons_self
        · exact fun k hk => putETomb_part _ _ k (fun e => hk (e ▸ List.mem_cons_self))

theorem opDel_covers {cur : Replica} (hn : IdsNodup cur) (rights : Rights) (p row ent dsig now : Nat) :
    Covers cur (opDel rights cur cur p row ent dsig now).cur (opDel rights cur cur p row ent dsig now).marks ∧
    (opDel rights cur cur p row ent dsig now).cur.log = cur.log := by
  unfold opDel
  cases ho : cur.findNode row ent with
  | none => exact ⟨covers_refl _ _, rfl⟩
  | some old =>
    obtain ⟨hm, hid, hent⟩ := findNode_some ho
    dsimp only
    by_cases hcan : (!can rights p (decide (old.author = p)) now) = true
    · rw [if_pos hcan]; exact ⟨covers_refl _ _, rfl⟩
    · rw [if_neg hcan]
      refine ⟨covers_of_parts fun k hk => ?_, rfl⟩
      simp only [List.mem_cons, List.not_mem_nil, or_false, not_or] at hk
      refine ⟨putNTomb_part _ _ k hk.2, rfl, part_filter _ _ _ _ k fun x hx hp => ?_⟩
      have hxid : x.id = row := by simpa using hp
      rw [eq_of_nodup_map hn hx hm (hxid.trans hid.symm)]
      exact fun e => hk.1 e.symm

theorem winv_of_covers {r r' : Replica} {marks : List Key} (h : WInv r.sigs noPending r.log) (hc : Covers r r' marks)
    (hl : r'.log = r.log) : WInv r'.sigs noPending (markAll marks r'.log) := by
  rw [hl]
  apply WInv_markAll
  refine WInv_write h (fun _ _ _ x => absurd x (fun z => z)) ?_
  intro room ent day hne
  exact Or.inr (hc room ent day hne)

/-- the same when the write stores its marks itself -/
theorem winv_of_covers_marked {r r' : Replica} {marks : List Key} (h : WInv r.sigs noPending r.log) (hc : Covers r r' marks)
    (hl : r'.log = markAll marks r.log) : WInv r'.sigs noPending r'.log := by
  -- the content does not depend on the table
  have := winv_of_covers (r' := { r' with log := r.log }) h hc rfl
  rw [hl]; exact this

/-- **every local write of the model keeps the daily-log invariant** (the write is planned on the state it is
    applied to, i.e. no other write of the same batch touched the same row) -/
theorem effectOf_winv {d : Defects} (hd : d.refDeletionUnmarked = false) (w : World) {cur : Replica}
    (hn : IdsNodup cur) (h : WInv cur.sigs noPending cur.log) (p : Nat) (op : WOp) :
    WInv (effectOf d w cur cur p op).cur.sigs noPending
      (markAll (effectOf d w cur cur p op).marks (effectOf d w cur cur p op).cur.log) := by
  cases op with
  | new row room ent val sig => exact winv_of_covers h (opNew_covers cur p row room ent val sig w.now) rfl
  | upd row val sig room =>
    obtain ⟨a, b⟩ := opUpd_covers hn w.rights p row ((w.entOf row).getD 0) val sig room w.now
    exact winv_of_covers h a b
  | ref row to sig =>
    obtain ⟨a, b⟩ := opRef_covers hn w.rights p row to sig w.now
    exact winv_of_covers h a b
  | unref row to sig dsig =>
    obtain ⟨a, b, _⟩ := opUnref_covers hn hd w.rights p row to sig dsig w.now (fun old ho => (findNode_some ho).1)
    exact winv_of_covers h a b
  | del row dsig =>
    obtain ⟨a, b⟩ := opDel_covers hn w.rights p row ((w.entOf row).getD 0) dsig w.now
    exact winv_of_covers h a b

theorem findId_some {r : Replica} {id : Nat} {n : Node} (h : r.findId id = some n) : n ∈ r.nodes ∧ n.id = id :=
  find_key_some (key := Node.id) h

theorem findId_none {r : Replica} {id : Nat} (h : r.findId id = none) : ∀ x ∈ r.nodes, x.id ≠ id :=
  find_key_none (key := Node.id) h

theorem putNode_covers {r : Replica} (hn : IdsNodup r) (n : Node) (l : Option Node) (hl : r.findId n.id = l) :
    ∀ k, k ≠ nKey n → (∀ o, l = some o → k ≠ nKey o) →
      part nKey (·.sig) (putNode n r.nodes) k = part nKey (·.sig) r.nodes k := by
  intro k h1 h2
  unfold putNode
  cases l with
  | none =>
    have hno := findId_none hl
    have : r.nodes.any (fun x => x.id = n.id) = false := by
      rw [List.any_eq_false]; intro x hx; simpa using hno x hx
    simp only [this, Bool.false_eq_true, ↓reduceIte]
    exact part_concat_ne nKey (·.sig) r.nodes fun z => h1 z.symm
  | some o =>
    obtain ⟨hm, hid⟩ := findId_some hl
    have : r.nodes.any (fun x => x.id = n.id) = true :=
      List.any_eq_true.mpr ⟨o, hm, by simp [hid]⟩
    simp only [this, ↓reduceIte]
    exact replace_part hn hm n hid.symm k (h2 o rfl) h1

/-- **a synchronised row keeps the invariant** (intended marks: the day of the row and the day of the version it
    replaces), `old` being the version stored locally -/
theorem ingestNode_winv {d : Defects} (hd : d.oldDayUnmarked = false) (rights : Rights) {r : Replica}
    (hn : IdsNodup r) (h : WInv r.sigs noPending r.log) (n : Node) (old : Option Node)
    (ho : r.findId n.id = old) (hent : ∀ o, old = some o → o.ent = n.ent) :
    WInv (ingestNode d rights r n old).sigs noPending (ingestNode d rights r n old).log := by
  unfold ingestNode
  split
  · have hc : Covers r { r with nodes := putNode n r.nodes } (kNode n.room n.ent n.mdate :: ingestOldMarks d n old) := by
      apply covers_of_parts
      intro k hk
      simp only [List.mem_cons, not_or] at hk
      refine ⟨rfl, rfl, ?_⟩
      refine putNode_covers hn n old ho k (fun e => hk.1 (by rw [e]; rfl)) ?_
      intro o ho' e
      apply hk.2
      subst ho'
      simp only [ingestOldMarks]
      split
      · rw [e]; simp [nKey, kNode, hent o rfl]
      · simp only [hd, Bool.false_eq_true, ↓reduceIte, List.mem_singleton]; rw [e]; rfl
    exact winv_of_covers_marked h hc rfl
  · exact h

theorem ingestNode_idsNodup {d : Defects} (rights : Rights) {r : Replica} (hn : IdsNodup r) (n : Node)
    (old : Option Node) : IdsNodup (ingestNode d rights r n old) := by
  unfold ingestNode
  split
  · unfold IdsNodup putNode
    simp only
    split
    · rw [replaceNode_ids]; exact hn
    · rename_i hany
      rw [List.map_append, List.nodup_append]
      refine ⟨hn, by simp, ?_⟩
      intro a ha b hb
      simp only [List.map_cons, List.map_nil, List.mem_singleton] at hb
      subst hb
      intro e
      obtain ⟨x, hx, hxe⟩ := List.mem_map.mp ha
      apply hany
      exact List.any_eq_true.mpr ⟨x, hx, by simp [hxe, e]⟩
  · exact hn

/-- **a synchronised deletion record keeps the invariant** (intended: every version it removes has its day marked) -/
theorem applyNTombs_winv {d : Defects} (h1 : d.syncDeletionLocalDayUnmarked = false)
    (rights : Rights) {dst : Replica} (h : WInv dst.sigs noPending dst.log) (ts : List NTomb) :
    WInv (applyNTombs d rights dst ts).sigs noPending (applyNTombs d rights dst ts).log := by
  refine applyNTombs_induct d rights ts (fun r : Replica => WInv r.sigs noPending r.log) dst h ?_
  intro r t _ hr
  unfold applyNTomb
  simp only [h1, Bool.false_eq_true, ↓reduceIte]
  refine winv_of_covers_marked (r := r) (marks := [kNode t.room t.ent t.ddate, kNode t.room t.ent t.mdate] ++
    (r.nodes.filter fun n => n.id = t.id && (!d.syncDeletionRoomScoped || n.room = t.room)).map
      fun n => kNode n.room n.ent n.mdate) hr ?_ rfl
  apply covers_of_parts
  intro k hk
  simp only [List.mem_append, List.mem_cons, List.not_mem_nil, or_false, not_or] at hk
  refine ⟨?_, rfl, ?_⟩
  · apply putNTomb_part
    intro e; apply hk.1.1; rw [e]; rfl
  · apply part_filter
    intro x hx hp
    intro e
    apply hk.2
    refine List.mem_map.mpr ⟨x, List.mem_filter.mpr ⟨hx, ?_⟩, by rw [← e]; rfl⟩
    cases hb : (decide (x.id = t.id) && (!d.syncDeletionRoomScoped || decide (x.room = t.room))) with
    | true => rfl
    | false => simp [hb] at hp

end Discret.Sync
