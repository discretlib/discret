import DiscretModel.Lemmas.Events
import DiscretModel.Lemmas.Basic
/-
Lemmas about the API level of the announcement model: for every operation, the shape of what it does
(changes that mark what they touch, followed by a recompute request).
-/
namespace Discret.Events

/-- good actions, then exactly one request: what a sequential caller's operation looks like -/
def OneRequest (acts : List Act) : Prop := ∃ l, acts = l ++ [Act.pass] ∧ ∀ a, a ∈ l → GoodW a

theorem OneRequest.pass : OneRequest [.pass] := ⟨[], rfl, fun _ h => nomatch h⟩

theorem OneRequest.cons {a : Act} {acts : List Act} (ha : GoodW a) (h : OneRequest acts) : OneRequest (a :: acts) := by
  obtain ⟨l, rfl, hl⟩ := h
  exact ⟨a :: l, rfl, List.forall_mem_cons.mpr ⟨ha, hl⟩⟩

theorem OneRequest.write {t m : List Cell} (h : ∀ c, c ∈ t → c ∈ m) : OneRequest [.write t m, .pass] :=
  .cons h .pass

theorem OneRequest.room (d : RoomDef) : OneRequest [.roomEv d, .write [] [], .pass] :=
  .cons trivial (.write fun _ h => h)

theorem OneRequest.of_good {l : List Act} (hl : ∀ a, a ∈ l → GoodW a) : OneRequest (l ++ [.pass]) := ⟨l, rfl, hl⟩

theorem OneRequest.WR {acts : List Act} (h : OneRequest acts) : WR acts := by
  obtain ⟨l, rfl, hl⟩ := h
  exact WR_good_passes l 1 (by decide) hl

theorem OneRequest.good_or_pass {acts : List Act} (h : OneRequest acts) : ∀ a, a ∈ acts → GoodW a ∨ a = .pass := by
  obtain ⟨l, rfl, hl⟩ := h
  intro a ha
  exact (List.mem_append.mp ha).imp (hl a) List.mem_singleton.mp

theorem good_of_filter {acts : List Act} (h : ∀ a, a ∈ acts → GoodW a ∨ a = .pass) :
    ∀ a, a ∈ acts.filter (fun a => a ≠ .pass) → GoodW a := by
  intro a ha
  obtain ⟨hm, hne⟩ := List.mem_filter.mp ha
  exact (h a hm).resolve_right (by simpa using hne)

def refdelGuard (s : Site) : Op → Bool
  | .refdel _ n m => hasRef n m s.refs
  | _ => true

theorem find?_ne_none_of_hasRef {n m : Nat} {l : List Ref} (h : hasRef n m l = true) :
    l.find? (fun r => r.src = n && r.dst = m) ≠ none := by
  intro hn
  rw [List.find?_eq_none] at hn
  simp only [hasRef, List.any_eq_true] at h
  obtain ⟨x, hx, hp⟩ := h
  exact hn x hx hp

theorem localOp_shape (d : Defects) (tick : Nat) (day : Day) (used : List Nat) (rooms : List (Room × Nat))
    (si : Nat) (s : Site) (op : Op) (hg : d.refdelUnmarked = false ∨ refdelGuard s op = true) :
    ∀ x, localOp d tick day used rooms si s op = some x → OneRequest x.2 := by
  fun_cases localOp d tick day used rooms si s op
  case case25 hfind hd =>
    -- the one branch that marks less than it touches (a reference deletion naming no reference, before
    -- 456214b): excluded by the guard
    exact absurd hfind (find?_ne_none_of_hasRef (hg.resolve_left (by simp [hd])))
  -- every other branch returns nothing, `[.pass]`, or a change whose touched cells are among the marked ones
  all_goals intro x hx; cases hx
  all_goals simp only [OneRequest.write, OneRequest.room, OneRequest.pass, List.mem_cons, List.not_mem_nil,
    List.cons_append, List.nil_append, or_false, false_imp_iff, implies_true, forall_eq, true_or, or_true]

theorem streamActs_WR (d : Defects) (mode : Mode) (rows : List Row)
    (h : d.streamCloseEarly = false ∨ mode = .acked) : WR (streamActs d mode rows) := by
  fun_cases streamActs d mode rows
  · exact absurd h (by simp [*])
  · show WR ((rows.map fun r => Act.write [cellOf r] [cellOf r]) ++ [Act.pass])
    refine (OneRequest.of_good ?_).WR
    intro a ha
    obtain ⟨r, _, rfl⟩ := List.mem_map.mp ha
    exact fun _ hc => hc

/-- the invariant of an ingestion: its actions are good, and as long as nothing was modified they are
    room events only -/
def PInv (a : PullAcc) : Prop :=
  (∀ x, x ∈ a.acts → GoodW x) ∧ (a.modified = false → ∀ x, x ∈ a.acts → ∃ d, x = .roomEv d)

theorem PInv.snoc {a : PullAcc} (h : PInv a) (dst : Site) (t m : List Cell) (htm : ∀ c, c ∈ t → c ∈ m) :
    PInv { dst := dst, acts := a.acts ++ [.write t m], modified := true, orig := a.orig } := by
  refine ⟨?_, fun h => nomatch h⟩
  intro x hx
  rcases List.mem_append.mp hx with h' | h'
  · exact h.1 x h'
  · rcases List.mem_singleton.mp h' with rfl
    exact htm

theorem pullETombs_inv (src : Site) (c : Cell) (a : PullAcc) (h : PInv a) : PInv (pullETombs src c a) := by
  fun_cases pullETombs src c a
  · exact h
  · apply h.snoc
    intro x hx
    obtain ⟨t, ht, rfl⟩ := List.mem_map.mp hx
    exact List.mem_map.mpr ⟨t, (List.mem_filter.mp ht).1, rfl⟩

theorem pullTombs_inv (src : Site) (c : Cell) (a : PullAcc) (h : PInv a) : PInv (pullTombs src c a) := by
  fun_cases pullTombs src c a
  · exact h
  · apply h.snoc
    intro x hx
    obtain ⟨t, ht, rfl⟩ := List.mem_map.mp hx
    exact List.mem_append.mpr (Or.inl (List.mem_flatMap.mpr ⟨t, (List.mem_filter.mp ht).1, List.mem_cons_self⟩))

theorem pullRows_inv (src : Site) (c : Cell) (a : PullAcc) (h : PInv a) : PInv (pullRows src c a) := by
  fun_cases pullRows src c a
  · exact h
  · apply h.snoc
    intro x hx
    obtain ⟨r, hr, rfl⟩ := List.mem_map.mp hx
    refine List.mem_flatMap.mpr ⟨r, (List.mem_filter.mp hr).1, ?_⟩
    split
    · exact List.mem_cons_of_mem _ List.mem_cons_self
    · exact List.mem_cons_self

theorem pullEntry_inv (src : Site) (a : PullAcc) (c : Cell) (h : PInv a) : PInv (pullEntry src a c) :=
  pullRows_inv _ _ _ (pullTombs_inv _ _ _ (pullETombs_inv _ _ _ h))

theorem pullStart_inv (dst : Site) (r : Room) (rd : RoomDef) : PInv (pullStart dst r rd) := by
  fun_cases pullStart dst r rd
  · exact ⟨fun x hx => List.mem_singleton.mp hx ▸ (trivial : GoodW (.roomEv rd)),
      fun _ x hx => ⟨rd, List.mem_singleton.mp hx⟩⟩
  · exact ⟨fun _ hx => (nomatch hx), fun _ _ hx => nomatch hx⟩

def restrictAct (cells : List Cell) : Act → Act
  | .write t m => .write (t.filter fun c => cells.contains c) m
  | a => a

theorem restrictTouched_eq_map (cells : List Cell) (l : List Act) :
    restrictTouched cells l = l.map (restrictAct cells) := by
  induction l with
  | nil => rfl
  | cons a rest ih => cases a <;> simp [restrictTouched, restrictAct, ih]

theorem GoodW.restrict {cells : List Cell} {a : Act} (h : GoodW a) : GoodW (restrictAct cells a) := by
  cases a with
  | write t m => exact fun c hc => h c (List.mem_filter.mp hc).1
  | _ => exact h

theorem pullFinish_shape (a : PullAcc) (h : PInv a) :
    OneRequest (pullFinish a).2 ∨ ∀ x, x ∈ (pullFinish a).2 → ∃ d, x = Act.roomEv d := by
  unfold pullFinish
  dsimp only
  rw [restrictTouched_eq_map]
  split
  · refine Or.inl (.of_good fun x hx => ?_)
    obtain ⟨y, hy, rfl⟩ := List.mem_map.mp hx
    exact (h.1 y hy).restrict
  · rename_i hm
    refine Or.inr fun x hx => ?_
    obtain ⟨y, hy, rfl⟩ := List.mem_map.mp hx
    obtain ⟨d, rfl⟩ := h.2 (by simpa using hm) y hy
    exact ⟨d, rfl⟩

theorem pullOp_shape (src dst : Site) (r : Room) :
    ∀ x, pullOp src dst r = some x → OneRequest x.2 ∨ ∀ a, a ∈ x.2 → ∃ d, a = Act.roomEv d := by
  fun_cases pullOp src dst r
  · exact fun _ h => nomatch h
  · rename_i rd _
    intro x hx
    cases hx
    exact pullFinish_shape _ (foldl_invariant PInv (pullStart_inv dst r rd) fun a c _ => pullEntry_inv src a c)

theorem pullOp_WR {src dst : Site} {r : Room} {x : Site × List Act} (h : pullOp src dst r = some x) : WR x.2 :=
  (pullOp_shape src dst r x h).elim OneRequest.WR (WR_roomEvs _)

theorem pullOp_good {src dst : Site} {r : Room} {x : Site × List Act} (h : pullOp src dst r = some x) :
    ∀ a, a ∈ x.2 → GoodW a ∨ a = Act.pass :=
  (pullOp_shape src dst r x h).elim OneRequest.good_or_pass fun hev a ha => by
    obtain ⟨d, rfl⟩ := hev a ha
    exact Or.inl trivial

theorem sub_guard (s : Site) (si : Nat) (sub : Sub) : refdelGuard s (sub.toOp si) = true := by
  cases sub <;> rfl

theorem subApply_good (d : Defects) (tick : Nat) (day : Day) (used : List Nat) (rooms : List (Room × Nat))
    (si : Nat) (s : Site) (sub : Sub) : ∀ x, subApply d tick day used rooms si s sub = some x → ∀ a, a ∈ x.2 → GoodW a := by
  fun_cases subApply d tick day used rooms si s sub
  · exact fun _ h => nomatch h
  · intro x hx a ha
    cases hx
    obtain ⟨r, _, rfl⟩ := List.mem_map.mp ha
    exact fun _ hc => hc
  · intro x hx
    obtain ⟨y, hy, rfl⟩ := Option.map_eq_some_iff.mp hx
    exact good_of_filter (localOp_shape _ _ _ _ _ _ _ _ (Or.inr (sub_guard s si sub)) y hy).good_or_pass

theorem mixApply_good (d : Defects) (tick : Nat) (day : Day) (used : List Nat) (rooms : List (Room × Nat))
    (si : Nat) (s : Site) (subs : List Sub) : ∀ a, a ∈ (mixApply d tick day used rooms si s subs).2 → GoodW a := by
  fun_induction mixApply d tick day used rooms si s subs
  case case1 => exact fun _ h => nomatch h
  case case2 ih => exact ih
  case case3 hl _ ih =>
    exact fun a ha => (List.mem_append.mp ha).elim (subApply_good _ _ _ _ _ _ _ _ _ hl a) (ih a)

theorem mixPull_some {st : State} {si : Nat} {s : Site} {pull : Option (Nat × Room)} {x : Site × List Act} :
    mixPull st si s pull = some x → ∃ src r, pullOp src s r = some x := by
  fun_cases mixPull st si s pull
  case case4 src _ _ => exact fun h => ⟨src, _, h⟩
  all_goals exact fun h => nomatch h

theorem mixPull_good (st : State) (si : Nat) (s : Site) (pull : Option (Nat × Room)) :
    ∀ a, a ∈ ((mixPull st si s pull).getD (s, [])).2 → GoodW a ∨ a = Act.pass := by
  cases hp : mixPull st si s pull with
  | none => exact fun _ h => nomatch h
  | some x =>
    obtain ⟨src, r, h⟩ := mixPull_some hp
    exact pullOp_good h

/-- the guard of `C18_partial`: no reference deletion naming an absent reference, no stream closed early -/
def opGuard (st : State) : Op → Bool
  | .refdel s n m =>
    match st.sites[s]? with
    | some site => hasRef n m site.refs
    | none => true
  | .stream _ .early _ => false
  | _ => true

theorem refdelGuard_of_opGuard {st : State} {op : Op} {si : Nat} {s : Site} (hsi : siteOf op = some si)
    (hs : st.sites[si]? = some s) (hg : opGuard st op = true) : refdelGuard s op = true := by
  fun_cases refdelGuard s op
  · cases hsi; simpa [opGuard, hs] using hg
  · rfl

theorem plan_WR (st : State) (op : Op)
    (hg : (st.d.refdelUnmarked = false ∧ st.d.streamCloseEarly = false) ∨ opGuard st op = true) :
    ∀ x, plan st op = some x → WR x.2.2 := by
  fun_cases plan st op
  case case4 mode _ _ _ _ _ =>            -- a stream
    intro x hx
    cases hx
    refine streamActs_WR _ _ _ (hg.imp (·.2) fun hg => ?_)
    cases mode
    · rfl
    · exact nomatch hg
  case case6 =>                           -- an ingestion
    intro x hx
    obtain ⟨y, hy, rfl⟩ := Option.map_eq_some_iff.mp hx
    exact pullOp_WR hy
  case case10 hne _ _ =>                  -- a mix: the actions of all its parts, then their requests
    intro x hx
    cases hx
    refine WR_good_passes _ _ ?_ fun a ha =>
      (List.mem_append.mp ha).elim (good_of_filter (mixPull_good _ _ _ _) a) (mixApply_good _ _ _ _ _ _ _ _ a)
    exact Nat.lt_of_lt_of_le (List.length_pos_iff.mpr (by simpa using hne)) (Nat.le_add_right ..)
  case case13 hs _ _ _ _ hsi =>           -- a local operation
    intro x hx
    obtain ⟨y, hy, rfl⟩ := Option.map_eq_some_iff.mp hx
    exact (localOp_shape _ _ _ _ _ _ _ _ (hg.imp (·.1) (refdelGuard_of_opGuard hsi hs)) y hy).WR
  all_goals exact fun _ h => nomatch h    -- skipped

theorem step_obs {st st' : State} {op : Op} {evs : List Ev} {g : List Cell}
    (h : step st op = (st', .obs evs g)) :
    ∃ si s1 acts, plan st op = some (si, s1, acts) ∧ evs = (execActs s1 acts).2 ∧ g = touchedOf acts ∧
      st'.sites = setSite si (execActs s1 acts).1 st.sites := by
  unfold step at h
  split at h
  · cases h
  · split at h
    · cases h
    · rename_i si s1 acts hp
      simp only [Prod.mk.injEq, Out.obs.injEq] at h
      obtain ⟨rfl, h2, h3⟩ := h
      exact ⟨si, s1, acts, hp, h2.symm, h3.symm, rfl⟩

theorem step_d (st : State) (op : Op) : (step st op).1.d = st.d := by
  fun_cases step st op <;> rfl

theorem step_announces {st st' : State} {op : Op} {evs : List Ev} {g : List Cell}
    (hg : (st.d.refdelUnmarked = false ∧ st.d.streamCloseEarly = false) ∨ opGuard st op = true)
    (h : step st op = (st', .obs evs g)) : ∀ c, c ∈ g → Announced evs c := by
  obtain ⟨si, s1, acts, hp, rfl, rfl, _⟩ := step_obs h
  exact execActs_announces acts s1 (plan_WR st op hg _ hp)

theorem runOps_out (ops : List Op) : ∀ (st : State) (out : Out), out ∈ (runOps st ops).2 →
    ∃ st1 op, st1.d = st.d ∧ (step st1 op).2 = out := by
  induction ops with
  | nil => intro st out h; cases h
  | cons op rest ih =>
    intro st out h
    rcases List.mem_cons.mp h with h | h
    · exact ⟨st, op, rfl, h.symm⟩
    · obtain ⟨st1, op1, hd, ho⟩ := ih _ out h
      exact ⟨st1, op1, hd.trans (step_d st op), ho⟩

theorem execActs_defs (acts : List Act) : ∀ (s : Site), (execActs s acts).1.defs = s.defs := by
  induction acts with
  | nil => intro s; rfl
  | cons a rest ih =>
    intro s
    cases a <;> simp only [execActs] <;> rw [ih]

theorem findDef_setDef (d : RoomDef) (l : List RoomDef) : findDef d.room (setDef d l) = some d := by
  unfold setDef
  induction l with
  | nil => simp [findDef]
  | cons x xs ih =>
    by_cases hx : x.room = d.room
    · simpa [List.filter, hx] using ih
    · simpa [List.filter, hx, findDef] using ih

theorem getElem?_setSite (i : Nat) (s : Site) (l : List Site) (x : Site) (h : l[i]? = some x) :
    (setSite i s l)[i]? = some s := by
  unfold setSite
  rw [List.getElem?_set_self (List.getElem?_eq_some_iff.mp h).1]

end Discret.Events
