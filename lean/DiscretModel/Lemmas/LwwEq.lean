import DiscretModel.Gen.Lww
import DiscretModel.Model.Ingest
import DiscretModel.Model.Sync
/-!
Obligations of translator T9: the last-writer-wins decision regenerated from `Node::filter_existing`
(Gen/Lww.lean) is the decision of the two hand-written models that C02 / C12 (`Ingest.filterOne`) and
C03 / C09 / C11 (`Sync.wanted`) are proved about.
-/
namespace Discret.Gen.Lww

/-- the shape facts the models rely on, decided on the regenerated file -/
theorem shape : oldFieldsFromStoredRow = true ∧ finalBranchRequests = true ∧ existingFromStoredRow = true := by decide

theorem ingest_filterOne_eq (nodes : List Discret.Ingest.NodeRow) (a : Nat × Int × Nat) :
    Discret.Ingest.filterOne nodes a =
      match Discret.Ingest.localRow nodes a.1 with
      | none => some (a.1, none)
      | some l => if dropIncoming a.2.1 a.2.2 l.mdate l.sg then none else some (a.1, some l) := by
  unfold Discret.Ingest.filterOne dropIncoming
  cases Discret.Ingest.localRow nodes a.1 with
  | none => rfl
  | some l => by_cases h1 : a.2.1 < l.mdate <;> simp [h1]

/-- the decision `Sync.wanted` takes once its deletion-record gate is passed -/
def syncDecision (dst : Discret.Sync.Replica) (n : Discret.Sync.Node) : Option (Option Discret.Sync.Node) :=
  match dst.findId n.id with
  | none => some none
  | some l => if dropIncoming (n.mdate : Int) n.sig (l.mdate : Int) l.sig then none else some (some l)

/-- whenever `Sync.wanted` requests an announced row it has taken exactly the regenerated last-writer-wins decision
    (it may also refuse: its deletion-record gate, whatever that gate is, answers `none` before the decision is reached) -/
theorem sync_wanted_eq (d : Discret.DailyLog.Defects) (dst : Discret.Sync.Replica) (n : Discret.Sync.Node) :
    Discret.Sync.wanted d dst n = none ∨ Discret.Sync.wanted d dst n = syncDecision dst n := by
  unfold Discret.Sync.wanted
  split
  · exact Or.inl rfl
  · right
    unfold syncDecision dropIncoming
    cases dst.findId n.id with
    | none => rfl
    | some l =>
      simp only [Int.ofNat_lt, Int.natCast_inj]
      by_cases h1 : n.mdate < l.mdate <;> simp [h1]

end Discret.Gen.Lww
