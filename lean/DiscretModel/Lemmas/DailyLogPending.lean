import DiscretModel.Lemmas.DailyLogRecompute
/-
The recomputation with the repairs in preserves the invariant also while marks are pending, i.e. when
`ComputeDailyLog` is processed in the middle of a writer batch, after writes whose marks are only written
at the end of the batch.
-/
namespace Discret.DailyLog

variable {d : Defects} (hd : d.LogRepaired)

include hd in
theorem recomputeGroup_pending {sigs : Content} {P : Pending} {g : Group} {c : Cursor} (hg : GInv sigs P g)
    (hc : sameGroup c g.room g.ent = false) : GInv sigs P (recomputeGroup d sigs c g).2 := by
  obtain ⟨k1, k2⟩ := recomputeGroup_key (d := d) sigs c g
  refine ⟨recomputeGroup_sorted hd.window sigs c hg.sorted, fun r' hr' _ hnp => ?_, fun pre post hpp hgood => ?_⟩
  · rw [k1, k2] at hnp ⊢
    exact recomputeGroup_right hd.emptied hd.window c hg.right r' hr' hnp
  · rw [k1, k2] at hgood ⊢
    exact recomputeGroup_chain hd hg hc pre post hpp fun r hr => (hgood r hr).2

include hd in
theorem recompute_pending {sigs : Content} {P : Pending} {log : Log} (h : WInv sigs P log) :
    WInv sigs P (recompute d sigs log) := by
  obtain ⟨a, b⟩ := recompute_groups (d := d) hd.window sigs h.groups
  refine ⟨b, fun g' hg' => ?_, h.covers_recompute hd.window⟩
  obtain ⟨_, c', g, hc, hg, e⟩ := a g' hg'
  rw [e]; exact recomputeGroup_pending hd (h.ginv g hg) hc

end Discret.DailyLog
