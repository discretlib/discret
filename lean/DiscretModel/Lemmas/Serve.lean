import DiscretModel.Model.Serve
import DiscretModel.Lemmas.Basic
/-
Lemmas for C08 (serving side of a connection), in two layers. One request: against a well-guarded table
(`GoodTable`) whose prelude re-checks membership (`Rechecks`) an answer is justified by the state it is
given in, without history (`serve_answer`). A connection's life: the invariant `Inv` (every allowed room is
justified by a membership at some earlier time) is preserved by every operation. Core Lean only.
-/
namespace Discret.Serve
open Discret.Room

/-- the database read each request kind is meant to make: with `guardFor`, the specification the regenerated
    table is judged against (`goodEntry`) -/
def sourceFor : QueryKind → Source
  | .proveIdentity => .sign | .hardwareFingerprint => .fingerprint | .roomList => .roomsForPeer
  | .roomDefinition => .roomDefinition | .roomNode => .roomNode | .roomLog => .roomLog | .roomLogAt => .roomLogAt
  | .edgeDeletionLog => .edgeDeletionLog | .nodeDeletionLog => .nodeDeletionLog
  | .roomDailyNodes => .roomDailyNodes | .nodes => .nodes | .edges => .edges | .peersForRoom => .peersForRoom

/-- the condition each request kind is meant to be served under -/
def guardFor : QueryKind → Guard
  | .proveIdentity => .none | .hardwareFingerprint => .keyIsOwn | .roomList => .keyProvenAndReady
  | _ => .allowedContainsRoom

/-- the arm is the intended one. `guardedRoomIsQueried` enters no proof: it is what licenses `serveArm` to hand
    the room of the request, the one the guard tested, to `fetch` inside the guarded branch. -/
def goodEntry (e : Entry) : Bool :=
  e.guard == guardFor e.kind && e.source == sourceFor e.kind && e.guardedRoomIsQueried

def GoodTable (tbl : List Entry) : Prop := tbl.all goodEntry = true

instance (tbl : List Entry) : Decidable (GoodTable tbl) := by unfold GoodTable; infer_instance

/-- every arm guarded by the allowed table is listed in the prelude that re-checks membership -/
def Rechecked (tbl : List Entry) : Prop :=
  tbl.all (fun e => e.guard != .allowedContainsRoom || e.recheck) = true

instance (tbl : List Entry) : Decidable (Rechecked tbl) := by unfold Rechecked; infer_instance

/-- the re-check takes place: the table lists it for every room-guarded arm and the switch that ignores it is off -/
def Rechecks (d : Defects) (cd : Code) : Prop := d.allowedNeverRevoked = false ∧ Rechecked cd.table

instance (d : Defects) (cd : Code) : Decidable (Rechecks d cd) := by unfold Rechecks; infer_instance

/-- every current definition of a room was installed at some time up to now, and nothing was installed later -/
structure WInv (w : World) : Prop where
  current : ∀ room ∈ w.rooms, ∃ t, (t, room) ∈ w.history ∧ t ≤ w.now
  past : ∀ p ∈ w.history, p.1 ≤ w.now

def countsDisabled (d : Defects) (ev : EventRule) : Bool := d.hasUserCountsDisabled || ev.admitBy == .hasUser

/-- why room `r` is in the allowed table of a connection bound to key `k` -/
def Admitted (d : Defects) (ev : EventRule) (w : World) (k : Key) (r : RoomId) : Prop :=
  ∃ p ∈ w.history, ∃ t, p.2.id = r ∧ p.1 ≤ t ∧ t ≤ w.now ∧
    (p.2.isUserValidAt k t = true ∨ (countsDisabled d ev = true ∧ p.2.hasUser k = true))

structure Inv (d : Defects) (ev : EventRule) (s : State) : Prop where
  world : WInv s.w
  unauth : s.c.key = none → s.c.allowed = []
  admitted : ∀ r ∈ s.c.allowed, ∃ k, s.c.key = some k ∧ Admitted d ev s.w k r

def Op.isAuth : Op → Bool
  | .auth _ _ => true
  | _ => false

section
variable {d : Defects} {cd : Code} {ev : EventRule} {e : Entry} {w : World} {own : Key} {c : Conn} {q : Query}
  {s : State} {r x : RoomId} {k : Key} {a : Answer}

theorem lookup_some {tbl : List Entry} {k : QueryKind} (h : lookup tbl k = some e) : e ∈ tbl ∧ e.kind = k :=
  ⟨List.mem_of_find?_eq_some h, by simpa using List.find?_some h⟩

theorem lookup_rechecked {tbl : List Entry} (h : Rechecked tbl) {k : QueryKind}
    (hl : lookup tbl k = some e) (hg : e.guard = .allowedContainsRoom) : e.recheck = true := by
  simpa [hg] using List.all_eq_true.mp h e (lookup_some hl).1

theorem guardFor_of_room (h : q.room? = some r) : guardFor q.kind = .allowedContainsRoom := by
  cases q <;> cases h <;> rfl

theorem guardFor_of_source (k : QueryKind) :
    (sourceFor k = .fingerprint → guardFor k = .keyIsOwn) ∧
    (sourceFor k = .roomsForPeer → guardFor k = .keyProvenAndReady) := by
  cases k <;> decide

theorem lookup_good {tbl : List Entry} (h : GoodTable tbl) (hl : lookup tbl q.kind = some e) :
    (∀ r, q.room? = some r → e.guard = .allowedContainsRoom) ∧
    (e.source = .fingerprint → e.guard = .keyIsOwn) ∧
    (e.source = .roomsForPeer → e.guard = .keyProvenAndReady) := by
  obtain ⟨hm, hk⟩ := lookup_some hl
  have hg := List.all_eq_true.mp h e hm
  simp only [goodEntry, Bool.and_eq_true, beq_iff_eq, hk] at hg
  rw [hg.1.1, hg.1.2]
  exact ⟨fun r hq => guardFor_of_room hq, guardFor_of_source q.kind⟩

theorem forall_mem_map_filter {α β : Type} {P : β → Prop} {f : α → β} {p : α → Bool} {l : List α}
    (h : ∀ x, p x = true → P (f x)) : ∀ y ∈ (l.filter p).map f, P y := by
  intro y hy
  obtain ⟨x, hx, rfl⟩ := List.mem_map.mp hy
  exact h x (List.mem_filter.mp hx).2

theorem fetch_room (w : World) (q : Query) (r : RoomId) (hq : q.room? = some r) :
    ∀ it ∈ fetch w q, it.room = some r ∨ (q.kind = .peersForRoom ∧ it.room = none) := by
  cases q <;> cases hq
  case roomDefinition | roomNode | roomLog =>
    exact forall_mem_map_filter fun x hx => .inl (congrArg some (of_decide_eq_true hx))
  case roomLogAt | edgeDeletionLog | nodeDeletionLog =>
    exact forall_mem_map_filter fun x hx => .inl (congrArg some (of_decide_eq_true hx).1)
  case roomDailyNodes => exact forall_mem_map_filter fun x hx => .inl (of_decide_eq_true hx).1
  case nodes => exact forall_mem_map_filter fun x hx => .inl (of_decide_eq_true hx).2
  case edges =>
    intro it hit
    obtain ⟨sc, _, h⟩ := List.mem_flatMap.mp hit
    exact .inl (forall_mem_map_filter (P := fun it : Item => it.room = some r) (fun e he => (of_decide_eq_true he).2.2) it h)
  case peersForRoom =>
    simp only [fetch]
    split
    · exact forall_mem_map_filter fun _ _ => .inr ⟨rfl, rfl⟩
    · exact fun _ h => nomatch h

theorem recheck_none (d : Defects) (e : Entry) (w : World) (c : Conn) : recheck d e w c none = c := by
  simp only [recheck, ite_self]

theorem recheck_some (d : Defects) (e : Entry) (w : World) (c : Conn) (r : RoomId) :
    recheck d e w c (some r) =
      if e.recheck && !d.allowedNeverRevoked && c.allowed.contains r && !c.key.any (memberNow w · r)
      then { c with allowed := c.allowed.filter (· ≠ r) } else c := by
  obtain ⟨key, ready, allowed⟩ := c
  simp only [recheck]
  cases e.recheck && !d.allowedNeverRevoked
  · rfl
  · cases allowed.contains r
    · rfl
    · cases key with
      | none => rfl
      | some k =>
        -- restated with the membership test in the open (it sits under binders on both sides)
        show (if memberNow w k r = true then _ else _) = if (!memberNow w k r) = true then _ else _
        cases memberNow w k r <;> rfl

theorem recheck_frame (d : Defects) (e : Entry) (w : World) (c : Conn) (room : Option RoomId) :
    (recheck d e w c room).key = c.key ∧ (recheck d e w c room).ready = c.ready ∧
    ∀ x ∈ (recheck d e w c room).allowed, x ∈ c.allowed := by
  cases room with
  | none => rw [recheck_none]; exact ⟨rfl, rfl, fun _ h => h⟩
  | some r =>
    rw [recheck_some]
    split
    · exact ⟨rfl, rfl, fun _ h => (List.mem_filter.mp h).1⟩
    · exact ⟨rfl, rfl, fun _ h => h⟩

theorem recheck_member (he : e.recheck = true) (hd : d.allowedNeverRevoked = false)
    (hm : r ∈ (recheck d e w c (some r)).allowed) : ∃ k, c.key = some k ∧ memberNow w k r = true := by
  rw [recheck_some, he, hd] at hm
  split at hm
  · exact absurd rfl (of_decide_eq_true (List.mem_filter.mp hm).2)
  · rename_i removed
    rw [List.contains_iff_mem.mpr hm] at removed
    exact (Option.any_eq_true _ _).mp (by simpa using removed)

theorem mem_insertRoom {l : List RoomId} {r x : RoomId} (h : x ∈ insertRoom l r) : x ∈ l ∨ x = r := by
  unfold insertRoom at h
  split at h
  · exact Or.inl h
  · simpa using h

theorem mem_foldl_insertRoom {rooms l : List RoomId} (h : x ∈ rooms.foldl insertRoom l) :
    x ∈ l ∨ x ∈ rooms :=
  (foldl_new id (P := fun r x => x = r) h fun _ _ _ => mem_insertRoom).imp_right fun ⟨_, hr, e⟩ => e ▸ hr

theorem serveArm_spec (e : Entry) (w : World) (own : Key) (c : Conn) (q : Query) :
    ((serveArm e w own c q).1 = c ∨ ∃ k, e.source = .roomsForPeer ∧ c.key = some k ∧
      (serveArm e w own c q).1 = { c with allowed := (roomsForPeer w k).foldl insertRoom c.allowed }) ∧
    match (serveArm e w own c q).2 with
    | .data r items => guardHolds c own e.guard q.room? = true ∧ q.room? = some r ∧ items = fetch w q
    | .roomList rooms => guardHolds c own e.guard q.room? = true ∧ e.source = .roomsForPeer ∧
        ∀ k, c.key = some k → rooms = roomsForPeer w k
    | .fingerprint => guardHolds c own e.guard q.room? = true ∧ e.source = .fingerprint
    | _ => True := by
  generalize hp : serveArm e w own c q = p
  unfold serveArm at hp
  split at hp
  next hg =>
    split at hp
    next => subst hp; exact ⟨.inl rfl, trivial⟩
    next hs => subst hp; exact ⟨.inl rfl, hg, hs⟩
    next hs =>
      split at hp
      next k hk =>
        subst hp
        refine ⟨?_, hg, hs, fun k' hk' => by cases hk.symm.trans hk'; rfl⟩
        dsimp only
        split
        · exact .inr ⟨k, hs, hk, rfl⟩
        · exact .inl rfl
      next hk =>
        subst hp
        exact ⟨.inl rfl, hg, hs, fun k' hk' => by cases hk.symm.trans hk'⟩
    next =>
      split at hp
      next r hq => subst hp; exact ⟨.inl rfl, hg, hq, rfl⟩
      next => subst hp; exact ⟨.inl rfl, trivial⟩
  next => split at hp <;> subst hp <;> exact ⟨.inl rfl, trivial⟩

theorem serve_cases (d : Defects) (cd : Code) (w : World) (own : Key) (c : Conn) (q : Query) :
    (lookup cd.table q.kind = none ∧ serve d cd w own c q = (c, .silent)) ∨
    ∃ e, lookup cd.table q.kind = some e ∧ serve d cd w own c q = serveArm e w own (recheck d e w c q.room?) q := by
  unfold serve
  cases lookup cd.table q.kind with
  | none => exact .inl ⟨rfl, rfl⟩
  | some e => exact .inr ⟨e, rfl, rfl⟩

theorem serve_answer (hg : GoodTable cd.table) (h : (serve d cd w own c q).2 = a) :
    match a with
    | .data r items => q.room? = some r ∧ r ∈ c.allowed ∧ items = fetch w q ∧
        (Rechecks d cd → ∃ k, c.key = some k ∧ memberNow w k r = true)
    | .roomList rooms => ∃ k, c.key = some k ∧ c.ready = true ∧ rooms = roomsForPeer w k
    | .fingerprint => c.key = some own
    | _ => True := by
  rcases serve_cases d cd w own c q with ⟨_, h0⟩ | ⟨e, he, h1⟩
  · rw [h0] at h; subst h; trivial
  · obtain ⟨hroom, hfp, hlist⟩ := lookup_good hg he
    have ha := (serveArm_spec e w own (recheck d e w c q.room?) q).2
    rw [← h1, h] at ha
    obtain ⟨hk, hr, hsub⟩ := recheck_frame d e w c q.room?
    cases a with
    | data r items =>
      obtain ⟨hgh, hq, hit⟩ := ha
      rw [hroom r hq, hq] at hgh
      have hc : r ∈ (recheck d e w c (some r)).allowed := List.contains_iff_mem.mp hgh
      exact ⟨hq, hsub r (hq ▸ hc), hit, fun hr => recheck_member (lookup_rechecked hr.2 he (hroom r hq)) hr.1 hc⟩
    | roomList rooms =>
      obtain ⟨hgh, hs, hrooms⟩ := ha
      rw [hlist hs] at hgh
      obtain ⟨hsome, hready⟩ := Bool.and_eq_true_iff.mp hgh
      obtain ⟨k, hk'⟩ := Option.isSome_iff_exists.mp hsome
      exact ⟨k, hk ▸ hk', hr ▸ hready, hrooms k hk'⟩
    | fingerprint =>
      rw [hfp ha.2] at ha
      exact hk ▸ of_decide_eq_true ha.1
    | _ => trivial

theorem serve_unauth (hg : GoodTable cd.table) (hk : c.key = none) (ha : c.allowed = []) :
    (serve d cd w own c q).2 = .silent ∨ (serve d cd w own c q).2 = .refused ∨
      (serve d cd w own c q).2 = .identity := by
  cases h : (serve d cd w own c q).2 with
  | silent => exact Or.inl rfl
  | refused => exact Or.inr (Or.inl rfl)
  | identity => exact Or.inr (Or.inr rfl)
  | fingerprint => have := serve_answer hg h; rw [hk] at this; cases this
  | roomList rooms => obtain ⟨k, hk', _⟩ := serve_answer hg h; rw [hk] at hk'; cases hk'
  | data r items => have := (serve_answer hg h).2.1; rw [ha] at this; cases this

theorem serve_post_allowed (hg : GoodTable cd.table) (hr : Rechecks d cd) (hq : q.room? = some r)
    (hl : (lookup cd.table q.kind).isSome) (hmem : r ∈ (serve d cd w own c q).1.allowed) :
    ∃ k, c.key = some k ∧ memberNow w k r = true := by
  rcases serve_cases d cd w own c q with ⟨h0, _⟩ | ⟨e, he, h1⟩
  · rw [h0] at hl; cases hl
  · obtain ⟨hroom, _, hlist⟩ := lookup_good hg he
    rw [h1] at hmem
    rcases (serveArm_spec e w own (recheck d e w c q.room?) q).1 with h | ⟨_, hs, _⟩
    · rw [h, hq] at hmem
      exact recheck_member (lookup_rechecked hr.2 he (hroom r hq)) hr.1 hmem
    · cases (hroom r hq).symm.trans (hlist hs)

theorem serve_frame (d : Defects) (cd : Code) (w : World) (own : Key) (c : Conn) (q : Query) :
    (serve d cd w own c q).1.key = c.key ∧ (serve d cd w own c q).1.ready = c.ready ∧
    ∀ x ∈ (serve d cd w own c q).1.allowed, x ∈ c.allowed ∨ ∃ k, c.key = some k ∧ x ∈ roomsForPeer w k := by
  rcases serve_cases d cd w own c q with ⟨_, h⟩ | ⟨e, _, h⟩ <;> rw [h]
  · exact ⟨rfl, rfl, fun x hx => .inl hx⟩
  · obtain ⟨hk, hr, ha⟩ := recheck_frame d e w c q.room?
    rcases (serveArm_spec e w own (recheck d e w c q.room?) q).1 with h | ⟨k, _, hk', h⟩ <;> rw [h]
    · exact ⟨hk, hr, fun x hx => .inl (ha x hx)⟩
    · exact ⟨hk, hr, fun x hx => (mem_foldl_insertRoom hx).imp (ha x) fun hx => ⟨k, hk ▸ hk', hx⟩⟩

theorem admitted_mono {w w' : World}
    (hh : ∀ p ∈ w.history, p ∈ w'.history) (hn : w.now ≤ w'.now) (h : Admitted d ev w k r) :
    Admitted d ev w' k r := by
  obtain ⟨p, hp, t, h1, h2, h3, h4⟩ := h
  exact ⟨p, hh p hp, t, h1, h2, Int.le_trans h3 hn, h4⟩

theorem mem_roomsForPeer :
    x ∈ roomsForPeer w k ↔ ∃ room ∈ w.rooms, room.id = x ∧ room.isUserValidAt k w.now = true := by
  simp only [roomsForPeer, List.mem_map, List.mem_filter]
  exact ⟨fun ⟨room, ⟨hm, hv⟩, hx⟩ => ⟨room, hm, hx, hv⟩, fun ⟨room, hm, hx, hv⟩ => ⟨room, ⟨hm, hv⟩, hx⟩⟩

theorem roomsForPeer_admitted (hw : WInv w)
    (h : x ∈ roomsForPeer w k) : Admitted d ev w k x := by
  obtain ⟨room, hm, rfl, hv⟩ := mem_roomsForPeer.mp h
  obtain ⟨t, ht, htn⟩ := hw.current room hm
  exact ⟨(t, room), ht, w.now, rfl, htn, Int.le_refl _, Or.inl hv⟩

theorem winv_install (hw : WInv w) (room : Room) : WInv (installRoom w room) where
  current x hx := by
    rcases List.mem_cons.mp hx with rfl | hx
    · exact ⟨w.now, List.mem_cons_self, Int.le_refl _⟩
    · obtain ⟨t, ht, htn⟩ := hw.current x (List.mem_filter.mp hx).1
      exact ⟨t, List.mem_cons_of_mem _ ht, htn⟩
  past p hp := by
    rcases List.mem_cons.mp hp with rfl | hp
    · exact Int.le_refl _
    · exact hw.past p hp

theorem roomEvent_spec (d : Defects) (ev : EventRule) (w : World) (c : Conn) (room : Room) :
    (roomEvent d ev w c room).key = c.key ∧ (roomEvent d ev w c room).ready = c.ready ∧
    ∀ x ∈ (roomEvent d ev w c room).allowed,
      x ∈ c.allowed ∨ (x = room.id ∧ ∃ k, c.key = some k ∧ admits d ev w room k = true) := by
  obtain ⟨key, ready, allowed⟩ := c
  cases key with
  | none => exact ⟨rfl, rfl, fun x hx => .inl hx⟩
  | some k =>
    simp only [roomEvent]
    cases ha : admits d ev w room k with
    | true => exact ⟨rfl, rfl, fun x hx => (mem_insertRoom hx).imp id fun h => ⟨h, k, rfl, ha⟩⟩
    | false =>
      cases ev.revokes && !d.allowedNeverRevoked with
      | true => exact ⟨rfl, rfl, fun x hx => .inl (List.mem_filter.mp hx).1⟩
      | false => exact ⟨rfl, rfl, fun x hx => .inl hx⟩

theorem admits_spec {room : Room} : admits d ev w room k = true →
    room.isUserValidAt k w.now = true ∨ (countsDisabled d ev = true ∧ room.hasUser k = true) := by
  unfold admits countsDisabled
  cases d.hasUserCountsDisabled with
  | true => exact fun h => .inr ⟨rfl, h⟩
  | false =>
    cases ev.admitBy with
    | validNow => exact .inl
    | hasUser => exact fun h => .inr ⟨rfl, h⟩

theorem admits_admitted {room : Room} (h : admits d ev (installRoom w room) room k = true) :
    Admitted d ev (installRoom w room) k room.id :=
  ⟨(w.now, room), List.mem_cons_self, w.now, rfl, Int.le_refl _, Int.le_refl _, admits_spec h⟩

theorem Inv.of_admitted (hw : WInv s.w)
    (ha : ∀ r ∈ s.c.allowed, ∃ k, s.c.key = some k ∧ Admitted d ev s.w k r) : Inv d ev s where
  world := hw
  admitted := ha
  unauth hn := List.eq_nil_iff_forall_not_mem.mpr fun r hr => by
    obtain ⟨k, hk, _⟩ := ha r hr
    cases hn.symm.trans hk

/-- the common shape of the cases of `step_inv` -/
theorem Inv.next {s s' : State} (hi : Inv d ev s) (hw : WInv s'.w)
    (hh : ∀ p ∈ s.w.history, p ∈ s'.w.history) (hn : s.w.now ≤ s'.w.now)
    (ha : ∀ x ∈ s'.c.allowed, (x ∈ s.c.allowed ∧ s'.c.key = s.c.key) ∨
      ∃ k, s'.c.key = some k ∧ Admitted d ev s'.w k x) : Inv d ev s' := by
  refine Inv.of_admitted hw fun x hx => ?_
  rcases ha x hx with ⟨hold, hk⟩ | hnew
  · obtain ⟨k, hk', had⟩ := hi.admitted x hold
    exact ⟨k, hk.trans hk', admitted_mono hh hn had⟩
  · exact hnew

theorem step_inv (hi : Inv d cd.event s) (op : Op) :
    Inv d cd.event (step d cd own s op).1 := by
  have same : ∀ p ∈ s.w.history, p ∈ s.w.history := fun _ h => h
  cases op with
  | auth k ready =>
    unfold step
    cases hk : s.c.key with
    | none => exact hi.next hi.world same (Int.le_refl _) fun x hx => nomatch hi.unauth hk ▸ hx
    | some _ => exact hi
  | setReady b => exact hi.next hi.world same (Int.le_refl _) fun x hx => .inl ⟨hx, rfl⟩
  | query q =>
    obtain ⟨hk, _, ha⟩ := serve_frame d cd s.w own s.c q
    exact hi.next hi.world same (Int.le_refl _) fun x hx => (ha x hx).imp (⟨·, hk⟩)
      fun ⟨k, hk', h⟩ => ⟨k, hk.trans hk', roomsForPeer_admitted hi.world h⟩
  | advance t =>
    have hle : s.w.now ≤ max t s.w.now := Int.le_max_right _ _
    exact hi.next ⟨fun room hm => (hi.world.current room hm).imp fun _ h => ⟨h.1, Int.le_trans h.2 hle⟩,
      fun p hp => Int.le_trans (hi.world.past p hp) hle⟩ same hle fun x hx => .inl ⟨hx, rfl⟩
  | install room =>
    obtain ⟨hk, _, ha⟩ := roomEvent_spec d cd.event (installRoom s.w room) s.c room
    refine hi.next (winv_install hi.world room) (fun p hp => List.mem_cons_of_mem _ hp) (Int.le_refl _) fun x hx => ?_
    rcases ha x hx with h | ⟨hr, k, hk', hadm⟩
    · exact .inl ⟨h, hk⟩
    · exact .inr ⟨k, hk.trans hk', hr ▸ admits_admitted hadm⟩
  | world f => exact hi.next ⟨hi.world.current, hi.world.past⟩ same (Int.le_refl _) fun x hx => .inl ⟨hx, rfl⟩

theorem run_fst (s : State) (ops : List Op) :
    (run d cd own s ops).1 = ops.foldl (fun s op => (step d cd own s op).1) s := by
  induction ops generalizing s with
  | nil => rfl
  | cons op rest ih => exact ih _

theorem run_inv (hi : Inv d cd.event s) (ops : List Op) : Inv d cd.event (run d cd own s ops).1 :=
  run_fst s ops ▸ foldl_invariant (Inv d cd.event) hi fun _ op _ h => step_inv h op

theorem inv_init (hw : WInv w) : Inv d ev (State.init w) :=
  Inv.of_admitted hw fun _ h => nomatch h

theorem run_answer (s : State) (ops : List Op) (i : Nat) (op : Op)
    (h : ops[i]? = some op) :
    (run d cd own s ops).2[i]? = some (step d cd own (run d cd own s (ops.take i)).1 op).2 := by
  induction ops generalizing s i with
  | nil => simp at h
  | cons o rest ih =>
    cases i with
    | zero =>
      simp only [List.getElem?_cons_zero, Option.some.injEq] at h
      subst h
      simp [run]
    | succ j =>
      simp only [List.getElem?_cons_succ] at h
      simp only [run, List.take_succ_cons, List.getElem?_cons_succ]
      exact ih _ j h

theorem step_key {op : Op} (h : op.isAuth = false) :
    (step d cd own s op).1.c.key = s.c.key := by
  cases op with
  | auth k r => cases h
  | setReady b => rfl
  | query q => exact (serve_frame d cd s.w own s.c q).1
  | advance t => rfl
  | install room => exact (roomEvent_spec d cd.event _ s.c room).1
  | world f => rfl

theorem run_key (ops : List Op) (s : State) (h : ∀ op ∈ ops, op.isAuth = false) :
    (run d cd own s ops).1.c.key = s.c.key :=
  run_fst s ops ▸ foldl_invariant (fun s' : State => s'.c.key = s.c.key) rfl
    fun _ op hop hs => (step_key (h op hop)).trans hs

theorem run_append (a b : List Op) :
    ∀ (s : State), (run d cd own s (a ++ b)).1 = (run d cd own (run d cd own s a).1 b).1 := by
  simp only [run_fst, List.foldl_append, implies_true]

end

end Discret.Serve
