import DiscretModel.Lemmas.FtsRun
/-
Half of C17 that holds after EVERY history once the index entries of a row go when the row goes (`deleteLeavesIndex`
off) and `Node::write` removes the previous text exactly when the row is in the index (`deleteUnguarded` off) —
whatever synchronisation and model versions do: every entry of the index belongs to a live row that has its document
record and whose CURRENT text has the word. Hence no stale hit, and no search that fails. Core Lean only.
-/
namespace Discret.Fts

/-- the half of `SInv` that does not depend on the flags: every entry is a word of the current text of a row that
    has its document record -/
def WInv (s : Site) : Prop :=
  RowsOK s.rows ∧
  (∀ p, p ∈ s.idx → ∃ r, r ∈ s.rows ∧ r.slot = p.1 ∧ r.slot ∈ s.docs ∧ p.2 ∈ r.text)

theorem WInv.rows {s : Site} (h : WInv s) : RowsOK s.rows := h.1

theorem WInv.sound {s : Site} (h : WInv s) {p : Slot × Word} (hp : p ∈ s.idx) :
    ∃ r, r ∈ s.rows ∧ r.slot = p.1 ∧ r.slot ∈ s.docs ∧ p.2 ∈ r.text := h.2 p hp

theorem SInv.winv {s : Site} (h : SInv s) : WInv s :=
  ⟨h.rows, fun _ hp => let ⟨r, hr, a, b, c⟩ := h.sound hp; ⟨r, hr, a, h.docs hr b, c⟩⟩

theorem search_sub_matching {s : Site} (h : WInv s) (e : Ent) (t : Word) :
    ∀ n, n ∈ search s e t → n ∈ matching s e t := by
  intro n hn
  obtain ⟨r, hr, rfl⟩ := List.mem_map.mp hn
  obtain ⟨hr', hc⟩ := List.mem_filter.mp hr
  rw [Bool.and_eq_true, List.contains_iff_mem] at hc
  obtain ⟨r', hr'', hs, _, hw⟩ := h.sound hc.2
  obtain rfl : r' = r := h.rows.bySlot r' hr'' r hr' hs
  exact List.mem_map_of_mem (List.mem_filter.mpr ⟨hr', Bool.and_eq_true_iff.mpr ⟨hc.1, List.contains_iff_mem.mpr hw⟩⟩)

theorem not_poisoned_w {s : Site} (h : WInv s) (t : Word) : poisoned s t = false := by
  unfold poisoned
  apply List.any_eq_false.mpr
  intro p hp
  obtain ⟨r, _, a, b, _⟩ := h.sound hp
  have : p.1 ∈ s.docs := a ▸ b
  simp [this]

theorem writeInsert_w {s : Site} (h : WInv s) (index : Bool) (new : Row) (hn : ∀ r, r ∈ s.rows → r.n ≠ new.n) :
    WInv (writeInsert index new s) := by
  obtain ⟨h1, h2⟩ := h
  refine ⟨h1.insert index new hn, fun p hp => ?_⟩
  rcases mem_writeInsert_idx.mp hp with hp | ⟨hi, hp1, hp2⟩
  · obtain ⟨r, hr, a, b, c⟩ := h2 p hp
    exact ⟨r, mem_writeInsert_rows.mpr (.inl hr), a, mem_writeInsert_docs.mpr (.inl b), c⟩
  · exact ⟨_, mem_writeInsert_rows.mpr (.inr rfl), hp1.symm, mem_writeInsert_docs.mpr (.inr ⟨hi, rfl⟩), hp2⟩

/-- `Node::write` that looks before it deletes, whatever `index` is -/
theorem writeUpdate_w {s : Site} (h : WInv s) (index : Bool) (old new : Row) (ho : old ∈ s.rows)
    (hn : new.n = old.n) (prev : Option (List Word)) (hp : PrevText old prev) :
    WInv (writeUpdate false index old new prev s) := by
  obtain ⟨h1, h2⟩ := h
  refine ⟨h1.update _ _ new prev ho hn, fun p hp' => ?_⟩
  rcases (mem_writeUpdate_idx hp).mp hp' with ⟨hin, hleft⟩ | ⟨hi, hp1, hp2⟩
  · obtain ⟨r, hr, a, b, c⟩ := h2 p hin
    -- the row is in the index: were it `old`, the 'delete' would have been issued, with the text of the row
    have hne : r.n ≠ old.n := by
      intro hrn
      obtain rfl := h1.byN r hr old ho hrn
      exact hleft ⟨by simpa [deletesPrev] using b, a.symm, c⟩
    exact ⟨r, mem_writeUpdate_rows.mpr (.inl ⟨hr, hne⟩), a,
      mem_writeUpdate_docs.mpr (.inl ⟨b, fun hd => h1.slot_ne hr ho hne hd.2.2⟩), c⟩
  · exact ⟨_, mem_writeUpdate_rows.mpr (.inr rfl), hp1.symm, mem_writeUpdate_docs.mpr (.inr ⟨hi, rfl⟩), hp2⟩

theorem WInv.remove {s s' : Site} (h : WInv s) (gone : Row → Prop)
    (hrows : ∀ r, r ∈ s'.rows ↔ r ∈ s.rows ∧ ¬gone r)
    (hidx : ∀ p, p ∈ s'.idx ↔
      p ∈ s.idx ∧ ∀ r, r ∈ s.rows → gone r → r.slot ∈ s.docs → ¬(p.1 = r.slot ∧ p.2 ∈ r.text))
    (hdocs : ∀ y, y ∈ s'.docs ↔ y ∈ s.docs ∧ ∀ r, r ∈ s.rows → gone r → y ≠ r.slot) : WInv s' := by
  obtain ⟨h1, h2⟩ := h
  refine ⟨h1.subset fun x hx => ((hrows x).mp hx).1, fun p hp => ?_⟩
  obtain ⟨hin, hno⟩ := (hidx p).mp hp
  obtain ⟨r, hr, a, b, c⟩ := h2 p hin
  have hstay : ¬gone r := fun hg => hno r hr hg b ⟨a.symm, c⟩
  exact ⟨r, (hrows r).mpr ⟨hr, hstay⟩, a,
    (hdocs _).mpr ⟨b, fun g hg hgone hs => hstay (h1.bySlot r hr g hg hs ▸ hgone)⟩, c⟩

theorem del_w {s : Site} (h : WInv s) (old : Row) (ho : old ∈ s.rows) :
    WInv { s with rows := eraseRow old.n s.rows, idx := dropEntries s.docs old s.idx,
                  docs := docDel old.slot s.docs } :=
  h.remove (fun r => r.n = old.n) (fun _ => mem_eraseRow) (fun _ => h.rows.mem_dropEntries ho)
    (fun _ => h.rows.mem_docDel ho)

theorem toggle_w {s : Site} (h : WInv s) (on : Ent → Bool) :
    WInv { s with indexOn := on, idx := toggleIdx s on, docs := toggleDocs s on } := by
  obtain ⟨h1, h2⟩ := h
  refine ⟨h1, fun p hp => ?_⟩
  rcases mem_toggleIdx.mp hp with ⟨hin, hsame⟩ | ⟨r, hr, hon, hoff, hs, hw⟩
  · obtain ⟨r, hr, a, b, c⟩ := h2 p hin
    exact ⟨r, hr, a, mem_toggleDocs.mpr (.inl ⟨b, fun r' hr' hs => hsame r' hr' (hs.trans a)⟩), c⟩
  · exact ⟨r, hr, hs, mem_toggleDocs.mpr (.inr ⟨r, hr, hon, hoff, rfl⟩), hw⟩

theorem ingestRow_w (d : Defects) (hd : d.deleteUnguarded = false) {dst : Site} (h : WInv dst) (r : Row) :
    WInv (ingestRow d dst r) := by
  unfold ingestRow
  dsimp only
  split
  · rename_i old hf
    obtain ⟨ho, hon⟩ := findRow_some hf
    rw [hd]
    exact writeUpdate_w h _ old r ho hon.symm (some old.text) (Or.inl rfl)
  · rename_i hf
    exact writeInsert_w h _ r (findRow_none hf)

theorem pullTombs_w (d : Defects) (hd : d.deleteLeavesIndex = false) (src : Site) (e : Ent) {dst : Site}
    (h : WInv dst) : WInv (pullTombs d src e dst) :=
  h.remove (Entombed src e) (fun _ => mem_pullTombs_rows) (fun _ => mem_pullTombs_idx hd)
    fun _ => mem_pullTombs_docs hd

theorem pullOp_w (d : Defects) (hd1 : d.deleteLeavesIndex = false) (hd2 : d.deleteUnguarded = false)
    (src : Site) {dst : Site} (h : WInv dst) : WInv (pullOp d src dst) :=
  pullOp_keeps (P := WInv) (fun _ r _ hw => ingestRow_w d hd2 hw r) (fun _ e hw => pullTombs_w d hd1 src e hw)
    (fun _ _ hw => hw) h

theorem LocalStep.winv {d : Defects} {used : List Nat} {s s1 : Site} {op : Op} (h : LocalStep d used s op s1)
    (hd1 : d.deleteLeavesIndex = false) (hd2 : d.deleteUnguarded = false) (hw : WInv s) : WInv s1 := by
  cases h with
  | declare | flag => exact hw
  | reindex => exact toggle_w hw _
  | create row logged hf hu hr => exact writeInsert_w hw (s.indexOn row.ent) row hr
  | write old new refs logged ho hn he =>
    rw [hd2]
    exact writeUpdate_w hw (s.indexOn old.ent) old new ho hn (prevOf old) (prevOf_ok old)
  | same => exact hw
  | delete si old refs tombs logged ho =>
    simp only [hd1, Bool.false_eq_true, ↓reduceIte]
    exact del_w hw old ho

def AllW (st : State) : Prop := ∀ s, s ∈ st.sites → WInv s

theorem step_w (st : State) (hd1 : st.d.deleteLeavesIndex = false) (hd2 : st.d.deleteUnguarded = false)
    (h : AllW st) (op : Op) : AllW (step st op).1 :=
  (step_spec st op).forall_sites h (fun _ _ _ hl hw => hl.winv hd1 hd2 hw)
    fun _ src _ _ hw => pullOp_w st.d hd1 hd2 src hw

theorem AllW.runOps {st : State} (hd1 : st.d.deleteLeavesIndex = false) (hd2 : st.d.deleteUnguarded = false)
    (h : AllW st) (ops : List Op) : AllW (runOps st ops).1 :=
  (runOps_keeps (P := fun st' => st'.d = st.d ∧ AllW st') (g := fun _ _ => true)
    (fun st' op _ ⟨hd, h⟩ _ => ⟨⟨(step_d st' op).trans hd, step_w st' (hd ▸ hd1) (hd ▸ hd2) h op⟩, rfl⟩)
    ops st ⟨rfl, h⟩ rfl).2

theorem allW_init (d : Defects) (n : Nat) : AllW (init d n) := forall_init_sites sinv_empty.winv d n

end Discret.Fts
