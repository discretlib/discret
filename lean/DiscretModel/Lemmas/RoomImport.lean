import DiscretModel.Lemmas.RoomMerge
/-
C10 — SUCCESS of the import of a room by an instance that never saw it (`prepare_new_room`), for definitions built by
accepted local room mutations.

`prepare_new_room` replays the exported rows (ascending dates and distinct group ids: it succeeds, `parse_export_ok`)
and then asks, for EVERY entry and every group row, that its author be admin of the final room at the entry's date.
`SiteEntitled` is that condition on the exporter's side. A local mutation keeps it (`siteEntitled_mutate`) when its date
lies after every date the room holds, so that who was admin at the dates of the stored rows does not change
(`validate_isAdmin_past`), because the rows it adds are signed by its caller and dated by it, and the caller is admin of
the room as it stands after the mutation: for an existing room `validate` refuses every other caller before looking at
anything else (`validate_existing_admin`); the creator of a room lists itself as admin or, with
`groupCreationUnchecked = false`, creates nothing at all (`validate_new_admin_or_empty`).
`validate_admin_of_need` says when the check on the resulting room is made whatever the room was before.

At the end, for C01: a room mutation names only groups of the mutated room and leaves every other room alone.
-/
namespace Discret.RoomBuild
open Discret.Room

structure AllEntries (Q : Key → Int → Prop) (rr : RoomRow) : Prop where
  admins : ∀ u ∈ rr.admins, Q u.author u.date
  groups : ∀ g ∈ rr.groups, Q g.author g.mdate ∧ (∀ u ∈ g.users, Q u.author u.date) ∧
    (∀ x ∈ g.rights, Q x.author x.date) ∧ (∀ u ∈ g.userAdmins, Q u.author u.date)

namespace AllEntries

theorem mono {Q Q' : Key → Int → Prop} {rr : RoomRow} (h : AllEntries Q rr)
    (hq : ∀ k t, Q k t → Q' k t) : AllEntries Q' rr :=
  ⟨fun u hu => hq _ _ (h.admins u hu), fun g hg =>
    ⟨hq _ _ (h.groups g hg).1, fun u hu => hq _ _ ((h.groups g hg).2.1 u hu),
     fun x hx => hq _ _ ((h.groups g hg).2.2.1 x hx), fun u hu => hq _ _ ((h.groups g hg).2.2.2 u hu)⟩⟩

theorem and {P Q : Key → Int → Prop} {rr : RoomRow} (hp : AllEntries P rr) (hq : AllEntries Q rr) :
    AllEntries (fun k t => P k t ∧ Q k t) rr :=
  ⟨fun u hu => ⟨hp.admins u hu, hq.admins u hu⟩, fun g hg =>
    have ⟨p1, p2, p3, p4⟩ := hp.groups g hg
    have ⟨q1, q2, q3, q4⟩ := hq.groups g hg
    ⟨⟨p1, q1⟩, fun u hu => ⟨p2 u hu, q2 u hu⟩, fun x hx => ⟨p3 x hx, q3 x hx⟩, fun u hu => ⟨p4 u hu, q4 u hu⟩⟩⟩

end AllEntries

section
variable {Q : Key → Int → Prop} {author : Key} {d : Int}

theorem mkUserRows_all (hq : Q author d) (n : Nat)
    (l : List (Key × Bool)) : ∀ u ∈ mkUserRows author d n l, Q u.author u.date := by
  induction l generalizing n with
  | nil => intro u hu; cases hu
  | cons p t ih =>
    obtain ⟨k, e⟩ := p
    intro u hu
    simp only [mkUserRows, List.mem_cons] at hu
    rcases hu with rfl | hu
    · exact hq
    · exact ih (n + 1) u hu

theorem mkRightRows_all (hq : Q author d) (n : Nat)
    (l : List (Ent × Bool × Bool)) : ∀ x ∈ mkRightRows author d n l, Q x.author x.date := by
  induction l generalizing n with
  | nil => intro u hu; cases hu
  | cons p t ih =>
    obtain ⟨e, s, a⟩ := p
    intro u hu
    simp only [mkRightRows, List.mem_cons] at hu
    rcases hu with rfl | hu
    · exact hq
    · exact ih (n + 1) u hu

/-- the `groups` field of `AllEntries` for a list of group rows on its own: `storeGroups` works on the list -/
def GroupsAll (Q : Key → Int → Prop) (gs : List GroupRow) : Prop :=
  ∀ g ∈ gs, Q g.author g.mdate ∧ (∀ u ∈ g.users, Q u.author u.date) ∧
    (∀ x ∈ g.rights, Q x.author x.date) ∧ (∀ u ∈ g.userAdmins, Q u.author u.date)

theorem storeGroup_all (hq : Q author d) (n : Nat)
    {groups : List GroupRow} (h : GroupsAll Q groups) (g : GroupSpec) : GroupsAll Q (storeGroup author d n groups g) := by
  have hu := fun k l => mkUserRows_all (Q := Q) hq k l
  have hr := fun k l => mkRightRows_all (Q := Q) hq k l
  unfold storeGroup
  simp only
  by_cases hany : groups.any (·.gid = g.gid) = true
  · rw [if_pos hany]
    intro x hx
    obtain ⟨y, hy, rfl⟩ := List.mem_map.mp hx
    obtain ⟨h1, h2, h3, h4⟩ := h y hy
    by_cases hc : y.gid = g.gid
    · rw [if_pos hc]
      exact ⟨hq, fun u hm => (List.mem_append.mp hm).elim (h2 u) (hu _ _ u),
        fun u hm => (List.mem_append.mp hm).elim (h3 u) (hr _ _ u),
        fun u hm => (List.mem_append.mp hm).elim (h4 u) (hu _ _ u)⟩
    · rw [if_neg hc]; exact ⟨h1, h2, h3, h4⟩
  · rw [if_neg hany]
    intro x hx
    rcases List.mem_append.mp hx with hx | hx
    · exact h x hx
    · cases List.mem_singleton.mp hx
      exact ⟨hq, hu _ _, hr _ _, hu _ _⟩

theorem storeGroups_all (hq : Q author d) (n : Nat)
    {groups : List GroupRow} (h : GroupsAll Q groups) (gs : List GroupSpec) :
    GroupsAll Q (storeGroups author d n groups gs) := by
  induction gs generalizing n groups with
  | nil => exact h
  | cons g t ih => exact ih _ (storeGroup_all hq n h g)

end

/-- the rows a mutation adds are signed by the caller and dated by the mutation; the second case of `hq`: a mutation
    without admin entries and without groups stores nothing new -/
theorem storeMutation_all {Q : Key → Int → Prop} {author : Key} {n : Nat} {m : MutSpec}
    (hq : Q author m.date ∨ (m.admins = [] ∧ m.groups = []))
    {old : Option RoomRow} (h : ∀ rr, old = some rr → AllEntries Q rr) :
    AllEntries Q (storeMutation author n old m) := by
  have hb : ∃ base : RoomRow, AllEntries Q base ∧
      (storeMutation author n old m).admins = base.admins ++ mkUserRows author m.date n m.admins ∧
      (storeMutation author n old m).groups = storeGroups author m.date (n + m.admins.length) base.groups m.groups := by
    cases old with
    | none => refine ⟨_, ?_, rfl, rfl⟩; exact ⟨fun _ h => (nomatch h), fun _ h => (nomatch h)⟩
    | some rr => exact ⟨rr, h rr rfl, rfl, rfl⟩
  obtain ⟨base, hb, ea, eg⟩ := hb
  refine ⟨fun u hu => ?_, fun g hg => ?_⟩
  · rw [ea] at hu
    rcases hq with hq | ⟨e, _⟩
    · exact (List.mem_append.mp hu).elim (hb.admins u) (mkUserRows_all hq _ _ u)
    · rw [e, mkUserRows, List.append_nil] at hu; exact hb.admins u hu
  · rw [eg] at hg
    rcases hq with hq | ⟨_, e⟩
    · exact storeGroups_all hq _ hb.groups _ g hg
    · rw [e, storeGroups] at hg; exact hb.groups g hg

theorem enabledAt_append_later {l : List User} {news : List User} {d : Int} (h : ∀ u ∈ news, d < u.date) (k : Key) :
    enabledAt (l ++ news) k d = enabledAt l k d := by
  induction news generalizing l with
  | nil => simp
  | cons u t ih =>
    have hu : d < u.date := h u (by simp)
    have ht : ∀ x ∈ t, d < x.date := fun x hx => h x (by simp [hx])
    have e : l ++ u :: t = (l ++ [u]) ++ t := by simp
    rw [e, ih ht]
    simp only [enabledAt, lastAt_eq_glast]
    rw [glast_append_of_lt User.key User.date l u k hu]

theorem validate_admins {df : Defects} {r : Room} {caller : Key} {m : MutSpec} {room' : Room}
    (hnew : m.isNew = false) (h : validate df (some r) caller m = .ok room') :
    room'.admins = r.admins ++ m.admins.map (mkUser m.date) := by
  obtain ⟨room, room1, need, hstart, hadm, hgs, _⟩ := validate_ok h
  obtain ⟨rfl, _⟩ := addAdminList_ok hadm
  rw [(validateGroups_frame hgs).1]
  rcases hstart with ⟨h1, _⟩ | ⟨_, hm, _⟩
  · rw [hnew] at h1; cases h1
  · cases hm; rfl

theorem validate_admins_new {df : Defects} {mem : Option Room} {caller : Key} {m : MutSpec} {room' : Room}
    (hnew : m.isNew = true) (h : validate df mem caller m = .ok room') :
    room'.admins = m.admins.map (mkUser m.date) := by
  obtain ⟨room, room1, need, hstart, hadm, hgs, _⟩ := validate_ok h
  obtain ⟨rfl, _⟩ := addAdminList_ok hadm
  rw [(validateGroups_frame hgs).1]
  rcases hstart with ⟨_, rfl⟩ | ⟨h1, _⟩
  · rfl
  · rw [hnew] at h1; cases h1

theorem validate_isAdmin_past {df : Defects} {r : Room} {caller : Key} {m : MutSpec} {room' : Room}
    (hnew : m.isNew = false) (h : validate df (some r) caller m = .ok room') {t : Int} (ht : t < m.date) (k : Key) :
    room'.isAdmin k t = r.isAdmin k t := by
  unfold Room.isAdmin
  rw [validate_admins hnew h]
  apply enabledAt_append_later
  intro u hu
  obtain ⟨p, _, rfl⟩ := List.mem_map.mp hu
  exact ht

theorem validateGroups_need_of {df : Defects} (hdf : df.groupCreationUnchecked = false) {caller : Key} {d : Int}
    {gs : List GroupSpec} {r r' : Room} {need need' : Bool}
    (h : validateGroups df caller d r need gs = .ok (r', need'))
    (hg : ∃ g ∈ gs, g.rights ≠ [] ∨ g.userAdmins ≠ [] ∨ g.isNew = true) (hnodup : (gs.map (·.gid)).Nodup)
    (hfresh : ∀ g ∈ gs, g.isNew = true → r.getAuth g.gid = none) : need' = true := by
  induction gs generalizing r need with
  | nil => obtain ⟨g, hg, _⟩ := hg; cases hg
  | cons g t ih =>
    obtain ⟨r1, n1, h1, ht⟩ := validateGroups_cons h
    obtain ⟨g0, hg0, hcase⟩ := hg
    rw [List.map_cons, List.nodup_cons] at hnodup
    rcases List.mem_cons.mp hg0 with rfl | hin
    · have hn1 : n1 = true := by
        rcases hcase with hc | hc | hc
        · exact validateGroup_need_of_entries h1 (Or.inl hc)
        · exact validateGroup_need_of_entries h1 (Or.inr hc)
        · exact validateGroup_need_of_created hdf h1 (hfresh g0 (List.mem_cons_self ..) hc)
      rw [hn1, Bool.or_true] at ht
      exact validateGroups_need_true ht
    · -- a group of the tail that is absent is still absent after the first group was handled: their ids differ
      refine ih ht ⟨g0, hin, hcase⟩ hnodup.2 fun x hx hxn => ?_
      have hne : x.gid ≠ g.gid := fun e => hnodup.1 (e ▸ List.mem_map.mpr ⟨x, hx, rfl⟩)
      rw [validateGroup_getAuth_ne h1 hne]
      exact hfresh x (List.mem_cons_of_mem _ hx) hxn

theorem newRoomEntitled_of {room : Room} {c : RoomRow} (h : AllEntries (fun k t => room.isAdmin k t = true) c) :
    newRoomEntitled room c = true := by
  unfold newRoomEntitled
  simp only [Bool.and_eq_true, List.all_eq_true]
  refine ⟨fun u hu => h.admins u hu, fun g hg => ?_⟩
  obtain ⟨h1, h2, h3, h4⟩ := h.groups g hg
  exact ⟨⟨⟨h1, fun u hu => h2 u hu⟩, fun x hx => h3 x hx⟩, fun u hu => h4 u hu⟩

theorem allEntries_readRoom {Q : Key → Int → Prop} (nf : Bool) (t : TieOrder) {rr : RoomRow} (h : AllEntries Q rr) :
    AllEntries Q (readRoom nf t rr) := by
  refine ⟨?_, ?_⟩
  · intro u hu
    exact h.admins u ((readUsers_perm nf t rr.admins).mem_iff.mp hu)
  · intro g hg
    simp only [readRoom, List.mem_map] at hg
    obtain ⟨g0, hg0, rfl⟩ := hg
    obtain ⟨h1, h2, h3, h4⟩ := h.groups g0 hg0
    refine ⟨h1, ?_, ?_, ?_⟩
    · intro u hu; exact h2 u ((readUsers_perm nf t g0.users).mem_iff.mp hu)
    · intro x hx; exact h3 x ((readRights_perm nf t g0.rights).mem_iff.mp hx)
    · intro u hu; exact h4 u ((readUsers_perm nf t g0.userAdmins).mem_iff.mp hu)

theorem allEntries_groupsByUid {Q : Key → Int → Prop} (b : Bool) {rr : RoomRow} (h : AllEntries Q rr) :
    AllEntries Q (groupsByUid b rr) :=
  ⟨h.admins, fun g hg => h.groups g ((groupsByUid_perm b rr).mem_iff.mp hg)⟩

theorem allEntries_export {Q : Key → Int → Prop} (df : Defects) {rr : RoomRow} (h : AllEntries Q rr) :
    AllEntries Q (exportRoom df rr) :=
  allEntries_groupsByUid _ (allEntries_readRoom _ _ h)

theorem parse_export_ok {df : Defects} (hnf : df.newestFirstReplay = false) (b : Bool) {rr : RoomRow}
    (hn : (rr.groups.map (·.gid)).Nodup) : ∃ r, parseRoom false (groupsByUid b (exportRoom df rr)) = .ok r := by
  apply parseRoom_of_wf
  · exact (((groupsByUid_perm b _).map _).trans (exportRoom_gids_perm df rr)).nodup_iff.mpr hn
  · show UserWF ((readUsers df.newestFirstReplay (.uid df.uidOrderReversed) rr.admins).map UserRow.toUser)
    rw [hnf]
    exact userWF_of_asc (readUsers_asc _ rr.admins)
  · intro g hg
    have h1 := (groupsByUid_perm b (exportRoom df rr)).mem_iff.mp hg
    have h2 := (groupsByUid_perm df.uidOrderReversed (readRoom df.newestFirstReplay (.uid df.uidOrderReversed) rr)).mem_iff.mp h1
    simp only [readRoom, List.mem_map] at h2
    obtain ⟨g0, _, rfl⟩ := h2
    rw [hnf]
    exact sortGroup_asc_ordered false _ g0

theorem import_new_succeeds {df : Defects} (hnf : df.newestFirstReplay = false) {src : Site} (hinv : SiteInv src)
    (hd : src.dead = false) {rid : Id} {r : Room} {rr : RoomRow} (hm : src.getMem rid = some r)
    (hs : src.getStored rid = some rr) (hent : AllEntries (fun k t => r.isAdmin k t = true) rr)
    (ht : TiesHarmless rr) {dst : Site} (hdd : dst.dead = false) (hnone : dst.getMem rid = none) :
    ∃ cand dst', src.export df rid = .ok cand ∧ dst.importRoom df cand = .ok dst' := by
  obtain ⟨rr', hs', ha, hw⟩ := hinv.agree _ _ hm
  rw [hs] at hs'; cases hs'
  have hcid : (exportRoom df rr).rid = rid := (getStored_some hs : rr.rid = rid)
  obtain ⟨r2, hp2⟩ := parse_export_ok hnf df.uidOrderReversed (agreesOrd_gids_nodup ha hw)
  -- who is admin when is the same in the parsed room as in the exporter's
  have hent2 := (allEntries_groupsByUid df.uidOrderReversed (allEntries_export df hent)).mono fun k t hk =>
    (sameAt_of_export ha hw (.refl _) hp2 ht t).admin k ▸ hk
  have hprep : prepareNewRoom (groupsByUid df.uidOrderReversed (exportRoom df rr)) = .ok r2 := by
    rw [prepareNewRoom, hp2]
    simp [liftErr, newRoomEntitled_of hent2]
  refine ⟨exportRoom df rr, dst.install (groupsByUid df.uidOrderReversed (exportRoom df rr)) r2,
    export_of_stored hd hs, ?_⟩
  unfold Site.importRoom
  simp only [hdd, Bool.false_eq_true, if_false, hcid, hnone, hprep]
  rfl

section
variable {df : Defects} {mem : Option Room} {caller : Key} {m : MutSpec} {room' : Room}

/-- an admin entry raises `need_room_admin`, which is checked on the resulting room -/
theorem validate_admin_of_admins (h : validate df mem caller m = .ok room') (hA : m.admins ≠ []) :
    room'.isAdmin caller m.date = true := by
  obtain ⟨_, _, _, _, _, hgs, hchk⟩ := validate_ok h
  cases hma : m.admins with
  | nil => exact absurd hma hA
  | cons x t => rw [hma] at hgs; exact hchk (validateGroups_need_true hgs)

/-- the first thing `validate_room_mutation` checks is that the caller is admin of the room as it is before the
    mutation; an admin entry it adds is covered by `validate_admin_of_admins` -/
theorem validate_existing_admin {r : Room}
    (hnew : m.isNew = false) (h : validate df (some r) caller m = .ok room') :
    room'.isAdmin caller m.date = true := by
  by_cases hA : m.admins = []
  · obtain ⟨room, _, _, hstart, _⟩ := validate_ok h
    rcases hstart with ⟨h1, _⟩ | ⟨_, hm, hadmin⟩
    · rw [hnew] at h1; cases h1
    · cases hm
      rw [Room.isAdmin, validate_admins hnew h, hA, List.map_nil, List.append_nil]
      exact hadmin
  · exact validate_admin_of_admins h hA

theorem validate_new_admin_or_empty (hdf : df.groupCreationUnchecked = false)
    (hnew : m.isNew = true) (h : validate df mem caller m = .ok room') :
    room'.isAdmin caller m.date = true ∨ (m.admins = [] ∧ m.groups = []) := by
  by_cases hA : m.admins = []
  · obtain ⟨room, room1, need, hstart, hadm, hgs, hchk⟩ := validate_ok h
    cases hmg : m.groups with
    | nil => exact Or.inr ⟨hA, rfl⟩
    | cons g t =>
      -- the first group is new to the empty room
      rw [hmg] at hgs
      obtain ⟨r1, n1, h1, ht⟩ := validateGroups_cons hgs
      obtain ⟨rfl, _⟩ := addAdminList_ok hadm
      rcases hstart with ⟨_, rfl⟩ | ⟨h1', _⟩
      · rw [validateGroup_need_of_created hdf h1 rfl, Bool.or_true] at ht
        exact Or.inl (hchk (validateGroups_need_true ht))
      · rw [hnew] at h1'; cases h1'
  · exact Or.inl (validate_admin_of_admins h hA)

end

def SiteEntitled (s : Site) : Prop :=
  ∀ rid r rr, s.getMem rid = some r → s.getStored rid = some rr → AllEntries (fun k t => r.isAdmin k t = true) rr

theorem siteEntitled_mutate {df : Defects} (hdf : df.groupCreationUnchecked = false) {s s' : Site} (hi : SiteInv s)
    (he : SiteEntitled s) {caller : Key} {n : Nat} {m : MutSpec} (h : s.mutate df caller n m = .ok s')
    (hdates : ∀ rr, s.getStored m.rid = some rr → AllEntries (fun _ t => t < m.date) rr) : SiteEntitled s' := by
  obtain ⟨_, room, hv, rfl⟩ := mutate_ok h
  obtain ⟨_, _, hid, hrid⟩ := mutate_agrees hi hv n
  intro rid r rr hm hs
  rw [getMem_install, hid] at hm
  rw [getStored_install, hrid] at hs
  by_cases hrid' : rid = m.rid
  · rw [if_pos hrid'] at hm hs
    cases hm; cases hs
    obtain ⟨room0, _, _, hstart, _⟩ := validate_ok hv
    rcases hstart with ⟨hnew, _⟩ | ⟨hnew, hmem, _⟩
    · exact storeMutation_all (validate_new_admin_or_empty hdf hnew hv) (by rw [hnew]; exact fun _ h => nomatch h)
    · -- what was stored was signed by admins of the room as it was: they are admins of it as it is now
      rw [hmem] at hv
      refine storeMutation_all (Or.inl (validate_existing_admin hnew hv)) fun rr0 hrr0 => ?_
      rw [hnew] at hrr0
      exact ((he m.rid room0 rr0 hmem hrr0).and (hdates rr0 hrr0)).mono fun k t ⟨ha, hd⟩ => by
        rw [validate_isAdmin_past hnew hv hd]; exact ha
  · rw [if_neg hrid'] at hm hs
    exact he rid r rr hm hs

theorem validate_admin_of_need {df : Defects} (hdf : df.groupCreationUnchecked = false) {mem : Option Room}
    {caller : Key} {m : MutSpec} {room' : Room} (h : validate df mem caller m = .ok room')
    (hnodup : (m.groups.map (·.gid)).Nodup)
    (hfresh : ∀ g ∈ m.groups, g.isNew = true → ∀ r, m.isNew = false → mem = some r → r.getAuth g.gid = none)
    (hneed : m.admins ≠ [] ∨ ∃ g ∈ m.groups, g.rights ≠ [] ∨ g.userAdmins ≠ [] ∨ g.isNew = true) :
    room'.isAdmin caller m.date = true := by
  rcases hneed with hA | hG
  · exact validate_admin_of_admins h hA
  · obtain ⟨room, room1, need, hstart, hadm, hgs, hchk⟩ := validate_ok h
    obtain ⟨rfl, _⟩ := addAdminList_ok hadm
    refine hchk (validateGroups_need_of hdf hgs hG hnodup fun g hg hgn => ?_)
    rcases hstart with ⟨_, rfl⟩ | ⟨hnew, hm, _⟩
    · rfl
    · exact hfresh g hg hgn room hnew hm

/-- **`validate_authorisation_mutation` refuses a group id that is not one of the room's** (authorisation_service.rs:
    `None => match old_node { Some(_) => NotBelongsTo …`): a `sys.Authorisation` entity named by id (an existing row)
    that the room being mutated does not hold — the group of another room, for instance -/
theorem validateGroup_foreign {df : Defects} {caller : Key} {d : Int} {room : Room} {g : GroupSpec}
    (hold : g.isNew = false) (habs : room.getAuth g.gid = none) :
    validateGroup df caller d room g = .error .notBelongs := by
  unfold validateGroup
  simp [habs, hold]

theorem validateGroups_belongs {df : Defects} {caller : Key} {d : Int} {gs : List GroupSpec} {r r' : Room}
    {need need' : Bool} (h : validateGroups df caller d r need gs = .ok (r', need')) :
    ∀ g ∈ gs, g.isNew = false → (r.getAuth g.gid).isSome = true ∨ ∃ g' ∈ gs, g'.isNew = true ∧ g'.gid = g.gid := by
  induction gs generalizing r need with
  | nil => intro g hg; cases hg
  | cons g0 t ih =>
    obtain ⟨r1, n1, h1, ht⟩ := validateGroups_cons h
    -- a group named as existing and absent from the room is refused
    have hhere : ∀ g : GroupSpec, g.gid = g0.gid → (r.getAuth g.gid).isSome = true ∨ g0.isNew = true := by
      intro g e
      cases hga : r.getAuth g.gid with
      | some a => exact Or.inl rfl
      | none =>
        cases hn0 : g0.isNew with
        | true => exact Or.inr rfl
        | false => rw [validateGroup_foreign hn0 (e ▸ hga)] at h1; cases h1
    intro g hg hold
    rcases List.mem_cons.mp hg with rfl | hin
    · exact (hhere g rfl).imp_right fun hn => absurd hold (by rw [hn]; exact Bool.noConfusion)
    · rcases ih ht g hin hold with hs | ⟨g', hg', hn, he⟩
      · by_cases e : g.gid = g0.gid
        · exact (hhere g e).imp_right fun hn => ⟨g0, List.mem_cons_self .., hn, e.symm⟩
        · rw [validateGroup_getAuth_ne h1 e] at hs; exact Or.inl hs
      · exact Or.inr ⟨g', List.mem_cons_of_mem _ hg', hn, he⟩

theorem mutate_other_rooms {df : Defects} {s s' : Site} (hi : SiteInv s) {caller : Key} {n : Nat} {m : MutSpec}
    (h : s.mutate df caller n m = .ok s') {rid : Id} (hne : rid ≠ m.rid) :
    s'.getStored rid = s.getStored rid ∧ s'.getMem rid = s.getMem rid := by
  obtain ⟨_, room, hv, rfl⟩ := mutate_ok h
  obtain ⟨_, _, hid, hrid⟩ := mutate_agrees hi hv n
  rw [getStored_install, getMem_install, hid, hrid, if_neg hne, if_neg hne]
  exact ⟨rfl, rfl⟩

end Discret.RoomBuild
