import DiscretModel.Model.Value
/-
Lemmas about the value layer of `Model/Value.lean`: escaping, integers, literals, storage and read-back,
equality filters, row updates.
-/
namespace Discret.Value

theorem escape_cons (c : Char) (s : List Char) : escape (c :: s) = escChar c ++ escape s := rfl

theorem hexVal_hexDigit : ∀ n, n < 16 → hexVal (hexDigit n) = some n := by decide

theorem hex4_ctrl (n : Nat) (h : n < 32) : hex4 '0' '0' (hexDigit (n / 16)) (hexDigit (n % 16)) = some n := by
  have h0 : hexVal '0' = some 0 := by decide
  simp only [hex4, h0, hexVal_hexDigit (n / 16) (by omega), hexVal_hexDigit (n % 16) (by omega)]
  congr 1; omega

theorem not_surrogate_ctrl (n : Nat) (h : n < 32) : isSurrogate n = false := by
  simp [isSurrogate]; omega

/-- the third equation of `unescape` as the model writes it (`unescape.eq_3` comes split along the inner `match`) -/
theorem unescape_cons_cons (len : Bool) (c e : Char) (t : List Char) : unescape len (c :: e :: t) =
    if c = '\\' then
      if e = 'u' then
        match t with
        | h1 :: h2 :: h3 :: h4 :: t' =>
          match hex4 h1 h2 h3 h4 with
          | some n => if isSurrogate n then none else (unescape len t').map (Char.ofNat n :: ·)
          | none => none
        | _ => none
      else
        match simpleEsc e with
        | some x => (unescape len t).map (x :: ·)
        | none => none
    else if c = '"' then none
    else if !len && c.toNat < 32 then none
    else (unescape len (e :: t)).map (c :: ·) :=
  unescape.eq_def len (c :: e :: t)

theorem unescape_raw (len : Bool) (c : Char) (t : List Char)
    (h1 : c ≠ '\\') (h2 : c ≠ '"') (h3 : len = true ∨ ¬ c.toNat < 32) :
    unescape len (c :: t) = (unescape len t).map (c :: ·) := by
  have h3' : (!len && decide (c.toNat < 32)) = false := by
    rcases h3 with h | h
    · simp [h]
    · simp [h]
  cases t with
  | nil => rw [unescape.eq_2, unescape.eq_1]; simp [h1, h2, h3']
  | cons e t => rw [unescape_cons_cons]; simp [h1, h2, h3']

theorem unescape_simple (len : Bool) (e x : Char) (t : List Char) (hx : simpleEsc e = some x) :
    unescape len ('\\' :: e :: t) = (unescape len t).map (x :: ·) := by
  have he : e ≠ 'u' := by rintro rfl; cases hx
  rw [unescape_cons_cons]; simp [he, hx]

theorem unescape_u (len : Bool) (h1 h2 h3 h4 : Char) (n : Nat) (t : List Char)
    (hh : hex4 h1 h2 h3 h4 = some n) (hs : isSurrogate n = false) :
    unescape len ('\\' :: 'u' :: h1 :: h2 :: h3 :: h4 :: t) = (unescape len t).map (Char.ofNat n :: ·) := by
  rw [unescape_cons_cons]; simp [hh, hs]

theorem escChar_letter : ∀ n ∈ [8, 9, 10, 12, 13], ∃ e ∈ ['b', 't', 'n', 'f', 'r'],
    escChar (Char.ofNat n) = ['\\', e] ∧ simpleEsc e = some (Char.ofNat n) := by decide

theorem escChar_cases (c : Char) :
    c = '"' ∨ c = '\\' ∨
    (c.toNat < 32 ∧
      ((∃ e ∈ ['b', 't', 'n', 'f', 'r'], escChar c = ['\\', e] ∧ simpleEsc e = some c) ∨
       escChar c = ['\\', 'u', '0', '0', hexDigit (c.toNat / 16), hexDigit (c.toNat % 16)])) ∨
    (32 ≤ c.toNat ∧ c ≠ '"' ∧ c ≠ '\\' ∧ escChar c = [c]) := by
  by_cases hq : c = '"'
  · exact .inl hq
  by_cases hb : c = '\\'
  · exact .inr (.inl hb)
  refine .inr (.inr ?_)
  by_cases h : c.toNat < 32
  · refine .inl ⟨h, ?_⟩
    by_cases h5 : c.toNat ∈ [8, 9, 10, 12, 13]
    · have := escChar_letter c.toNat h5
      rw [Char.ofNat_toNat] at this
      exact .inl this
    · simp only [List.mem_cons, List.not_mem_nil, or_false, not_or] at h5
      exact .inr (by simp [escChar, hq, hb, h5, h])
  · have : ¬ c.toNat = 8 ∧ ¬ c.toNat = 9 ∧ ¬ c.toNat = 10 ∧ ¬ c.toNat = 12 ∧ ¬ c.toNat = 13 := by omega
    exact .inr ⟨by omega, hq, hb, by simp [escChar, hq, hb, this, h]⟩

theorem unescape_escChar (len : Bool) (c : Char) (t : List Char) :
    unescape len (escChar c ++ t) = (unescape len t).map (c :: ·) := by
  rcases escChar_cases c with rfl | rfl | ⟨h, ⟨e, -, hc, hs⟩ | hu⟩ | ⟨h, hq, hb, hr⟩
  · exact unescape_simple len '"' '"' t rfl
  · exact unescape_simple len '\\' '\\' t rfl
  · rw [hc]; exact unescape_simple len e c t hs
  · have := unescape_u len '0' '0' _ _ c.toNat t (hex4_ctrl _ h) (not_surrogate_ctrl _ h)
    rw [Char.ofNat_toNat] at this
    rw [hu]; exact this
  · rw [hr]; exact unescape_raw len c t hb hq (.inr (by omega))

/-- **Round trip of strings**: what `serde_json` writes for any string (every Unicode scalar,
    any length) is read back as exactly that string. -/
theorem unescape_escape (len : Bool) (s : List Char) : unescape len (escape s) = some s := by
  induction s with
  | nil => simp [escape, unescape]
  | cons c s ih => rw [escape_cons, unescape_escChar, ih]; rfl

theorem digitVal_digitChar : ∀ d, d < 10 → digitVal (digitChar d) = some d := by decide

theorem parseDigits_append (acc : Nat) (s : List Char) (c : Char) :
    parseDigits acc (s ++ [c]) =
      (parseDigits acc s).bind fun n => (digitVal c).map fun d => n * 10 + d := by
  induction s generalizing acc with
  | nil =>
    simp only [List.nil_append, parseDigits]
    cases digitVal c <;> simp
  | cons x s ih =>
    simp only [List.cons_append, parseDigits]
    cases digitVal x with
    | none => simp
    | some d => simp [ih]

theorem natDigits_lt (n : Nat) (h : n < 10) : natDigits n = [digitChar n] := by
  rw [natDigits]; simp [h]

theorem natDigits_ge (n : Nat) (h : ¬ n < 10) :
    natDigits n = natDigits (n / 10) ++ [digitChar (n % 10)] := by
  rw [natDigits]; simp [h]

theorem parseDigits_natDigits (n : Nat) : parseDigits 0 (natDigits n) = some n := by
  induction n using natDigits.induct with
  | case1 n h => rw [natDigits_lt n h]; simp [parseDigits, digitVal_digitChar n h]
  | case2 n h ih =>
    rw [natDigits_ge n h, parseDigits_append, ih]
    simp [digitVal_digitChar (n % 10) (by omega)]
    omega

theorem natDigits_ne_nil (n : Nat) : natDigits n ≠ [] := by
  by_cases h : n < 10
  · rw [natDigits_lt n h]; simp
  · rw [natDigits_ge n h]; simp

theorem digitChar_range : ∀ d, d < 10 → 48 ≤ (digitChar d).toNat ∧ (digitChar d).toNat ≤ 57 := by decide

theorem natDigits_chars (n : Nat) : ∀ c ∈ natDigits n, 48 ≤ c.toNat ∧ c.toNat ≤ 57 := by
  induction n using natDigits.induct with
  | case1 n h => rw [natDigits_lt n h]; intro c hc; rw [List.mem_singleton.mp hc]; exact digitChar_range n h
  | case2 n h ih =>
    rw [natDigits_ge n h]; intro c hc
    rcases List.mem_append.mp hc with hc | hc
    · exact ih c hc
    · rw [List.mem_singleton.mp hc]; exact digitChar_range _ (by omega)

theorem parseNat_natDigits (n : Nat) : parseNat (natDigits n) = some n := by
  simp [parseNat, natDigits_ne_nil, parseDigits_natDigits]

theorem parseInt_natDigits (n : Nat) : parseInt (natDigits n) = some (n : Int) := by
  cases hd : natDigits n with
  | nil => exact absurd hd (natDigits_ne_nil n)
  | cons c t =>
    have hc := natDigits_chars n c (by rw [hd]; simp)
    have : parseInt (c :: t) = (parseNat (c :: t)).map fun n => (n : Int) := by
      unfold parseInt
      split
      · next h => rw [(List.cons.inj h).1] at hc; exact absurd hc (by decide)
      · rfl
    rw [this, ← hd, parseNat_natDigits]; rfl

theorem parseInt_printInt (i : Int) : parseInt (printInt i) = some i := by
  cases i with
  | ofNat n => exact parseInt_natDigits n
  | negSucc n =>
    simp only [printInt, parseInt, parseNat_natDigits]
    congr 1

theorem parseI64_printInt (i : Int) (h : inI64 i = true) : parseI64 (printInt i) = some i := by
  simp [parseI64, parseInt_printInt, h]

theorem litDecode_cons (c : Char) (r : List Char) (h : ¬ (c = '\\' ∧ r.head? = some '"')) :
    litDecode (c :: r) = c :: litDecode r := by
  cases r with
  | nil => rfl
  | cons e t => rw [litDecode.eq_3, if_neg]; simpa using h

theorem litDecode_append (l r : List Char) (hl : '"' ∉ l) (hr : r.head? ≠ some '"') :
    litDecode (l ++ r) = l ++ litDecode r := by
  induction l with
  | nil => rfl
  | cons x l ih =>
    rw [List.mem_cons, not_or] at hl
    rw [List.cons_append, litDecode_cons, ih hl.2, List.cons_append]
    cases l with
    | nil => exact fun h => hr h.2
    | cons y l => exact fun h => hl.2 (by simp at h; simp [h.2])

/-- what a character of the value becomes when it is spelled as a JSON escape and decoded by the parsers -/
def litImage (c : Char) : List Char := if c = '"' then ['"'] else escChar c

theorem hexDigit_ne_quote : ∀ n, n < 16 → '"' ≠ hexDigit n := by decide

theorem escChar_quote (c : Char) : ∃ x l, escChar c = x :: l ∧ x ≠ '"' ∧ (c ≠ '"' → '"' ∉ l) := by
  rcases escChar_cases c with rfl | rfl | ⟨h, ⟨e, he, hc, -⟩ | hu⟩ | ⟨-, hq, -, hr⟩
  · exact ⟨'\\', _, rfl, by decide, fun h => absurd rfl h⟩
  · exact ⟨'\\', _, rfl, by decide, fun _ => by decide⟩
  · exact ⟨'\\', _, hc, by decide, fun _ => (by decide : ∀ e ∈ ['b', 't', 'n', 'f', 'r'], '"' ∉ [e]) e he⟩
  · refine ⟨'\\', _, hu, by decide, fun _ => ?_⟩
    simp [hexDigit_ne_quote (c.toNat / 16) (by omega), hexDigit_ne_quote (c.toNat % 16) (by omega)]
  · exact ⟨c, [], hr, hq, fun _ => List.not_mem_nil⟩

theorem escape_head_ne_quote (s : List Char) : (escape s).head? ≠ some '"' := by
  cases s with
  | nil => simp [escape]
  | cons c s =>
    obtain ⟨x, l, h, hx, -⟩ := escChar_quote c
    rw [escape_cons, h]; simpa using hx

theorem litDecode_escChar (c : Char) (r : List Char) (hr : r.head? ≠ some '"') :
    litDecode (escChar c ++ r) = litImage c ++ litDecode r := by
  unfold litImage
  by_cases hq : c = '"'
  · subst hq; rfl
  · obtain ⟨x, l, h, hx, hl⟩ := escChar_quote c
    rw [if_neg hq]
    exact litDecode_append _ r (by simp [h, hx.symm, hl hq]) hr

theorem litDecode_escape (s : List Char) : litDecode (escape s) = s.flatMap litImage := by
  induction s with
  | nil => rfl
  | cons c s ih =>
    rw [escape_cons, litDecode_escChar c _ (escape_head_ne_quote s), ih]; rfl

theorem litImage_cases (c : Char) :
    ((c ≠ '\\' ∧ 32 ≤ c.toNat) ∧ litImage c = [c]) ∨ (¬ (c ≠ '\\' ∧ 32 ≤ c.toNat) ∧ 2 ≤ (litImage c).length) := by
  rcases escChar_cases c with rfl | rfl | ⟨h, hc⟩ | ⟨h, hq, hb, hr⟩
  · exact .inl (by decide)
  · exact .inr (by decide)
  · have hq : c ≠ '"' := by rintro rfl; exact absurd h (by decide)
    refine .inr ⟨fun h' => by omega, ?_⟩
    rw [litImage, if_neg hq]
    rcases hc with ⟨e, -, hc, -⟩ | hc <;> simp [hc]
  · exact .inl ⟨⟨hb, h⟩, by rw [litImage, if_neg hq, hr]⟩

theorem flatMap_litImage_length (s : List Char) : s.length ≤ (s.flatMap litImage).length := by
  induction s with
  | nil => simp
  | cons c s ih =>
    have : 1 ≤ (litImage c).length := by
      rcases litImage_cases c with ⟨-, h⟩ | ⟨-, h⟩
      · rw [h]; exact Nat.le_refl 1
      · omega
    simp only [List.flatMap_cons, List.length_append, List.length_cons]
    omega

theorem flatMap_litImage_eq_iff (s : List Char) :
    s.flatMap litImage = s ↔ ∀ c ∈ s, c ≠ '\\' ∧ 32 ≤ c.toNat := by
  induction s with
  | nil => simp
  | cons c s ih =>
    rw [List.flatMap_cons, List.forall_mem_cons, ← ih]
    rcases litImage_cases c with ⟨hc, hi⟩ | ⟨hc, hl⟩
    · rw [hi]; simp [hc]
    · refine ⟨fun h => ?_, fun h => absurd h.1 hc⟩
      have hl' := congrArg List.length h
      have := flatMap_litImage_length s
      simp only [List.length_append, List.length_cons] at hl'
      omega

/-- a literal body whose only escape is `\"` (every backslash is followed by a double quote): the literals the parsers decode
    as JSON does -/
def plainLit : List Char → Bool
  | [] => true
  | [c] => !(c = '\\' || c = '"')
  | c :: e :: t =>
    if c = '\\' then e = '"' && plainLit t
    else c != '"' && plainLit (e :: t)

theorem plainLit_unescape (b : List Char) (h : plainLit b = true) :
    unescape true b = some (litDecode b) := by
  induction b using plainLit.induct with
  | case1 => rfl
  | case2 c =>
    simp only [plainLit, Bool.not_eq_true', Bool.or_eq_false_iff, decide_eq_false_iff_not] at h
    rw [unescape.eq_2]; simp [h.1, h.2, litDecode]
  | case3 e t ih =>
    simp only [plainLit.eq_3, if_true, Bool.and_eq_true, decide_eq_true_eq] at h
    obtain ⟨rfl, ht⟩ := h
    rw [unescape_simple true '"' '"' t rfl, ih ht]; rfl
  | case4 c e t hc ih =>
    simp only [plainLit.eq_3, hc, if_false, Bool.and_eq_true, bne_iff_ne, ne_eq] at h
    rw [unescape_raw true c (e :: t) hc h.1 (.inl rfl), litDecode_cons c (e :: t) (fun h => hc h.1), ih h.2]; rfl

theorem readJson_str (s : List Char) : readJson ('"' :: (escape s ++ ['"'])) = some (.str s) := by
  simp [readJson, unescape_escape]

theorem printInt_chars (i : Int) : ∀ c ∈ printInt i, c = '-' ∨ (48 ≤ c.toNat ∧ c.toNat ≤ 57) := by
  intro c hc
  cases i with
  | ofNat n => exact .inr (natDigits_chars n c hc)
  | negSucc n => exact (List.mem_cons.mp hc).imp_right (natDigits_chars _ c)

theorem readJson_of_head (c : Char) (t : List Char) (h : c = '-' ∨ (48 ≤ c.toNat ∧ c.toNat ≤ 57)) :
    readJson (c :: t) = (parseInt (c :: t)).map Scalar.int := by
  have ne : ∀ x : Char, x.toNat < 45 ∨ 57 < x.toNat → ∀ u, c :: t ≠ x :: u := fun x hx u e => by
    rw [(List.cons.inj e).1] at h
    rcases h with rfl | h
    · exact absurd hx (by decide)
    · omega
  unfold readJson
  split
  · next rest heq => exact absurd heq (ne '"' (by decide) _)
  · have n1 : c :: t ≠ "null".toList := ne 'n' (by decide) _
    have n2 : c :: t ≠ "true".toList := ne 't' (by decide) _
    have n3 : c :: t ≠ "false".toList := ne 'f' (by decide) _
    rw [if_neg n1, if_neg n2, if_neg n3]

theorem readJson_int (i : Int) : readJson (printInt i) = some (.int i) := by
  cases hp : printInt i with
  | nil => cases i <;> simp [printInt, natDigits_ne_nil] at hp
  | cons c t => rw [readJson_of_head c t (printInt_chars i c (by simp [hp])), ← hp, parseInt_printInt]; rfl

/-- the scalars whose JSON text the model renders -/
def Scalar.transparent : Scalar → Bool
  | .float _ _ => false
  | .json _ => false
  | _ => true

/-- **Round trip of a stored scalar**: the JSON text written for it, re-emitted by SQLite and read by
    the client, is that scalar. -/
theorem readJson_jsonText (v : Scalar) (h : v.transparent = true) :
    readJson (reemit (jsonText v)) = some v := by
  cases v with
  | null => rfl
  | bool b => cases b <;> rfl
  | int i => exact readJson_int i
  | str s => exact readJson_str s
  | float b t => simp [Scalar.transparent] at h
  | json t => simp [Scalar.transparent] at h

theorem admitParam_eq (ty : FieldTy) (nul : Bool) (v s : Scalar) (h : admitParam ty nul v = .ok s) : s = v := by
  unfold admitParam at h
  split at h <;> (try split at h) <;> cases h <;> rfl

theorem sqlEq_refl (a : Scalar) (h : a ≠ .null) : sqlEq (some a) a = true := by
  cases a <;> simp_all [sqlEq]

theorem sqlEq_eq (a b : Scalar) (ha : a.transparent = true) (h : sqlEq (some a) b = true) : a = b := by
  cases a <;> cases b <;> simp_all [sqlEq, Scalar.transparent]

/-- a row storing `v` is matched by the filter on `v`; the one exception is `null` given as a parameter where
    it is bound to `field = ?n` -/
theorem filterMatches_self (d : Defects) (dflt : Option Scalar) (v : Scalar) (h : v = .null → d.nullParamNoMatch = false) :
    filterMatches d dflt (some v) (.param v) = true ∧ filterMatches d dflt (some v) (.lit v) = true := by
  by_cases hv : v = .null
  · subst hv; simp [filterMatches, sqlIsNull, h rfl]
  · have hs := sqlEq_refl v hv
    cases v <;> cases dflt <;> simp_all [filterMatches]

theorem sqlIsNull_some (a : Scalar) : sqlIsNull (some a) = true ↔ a = .null := by
  cases a <;> simp [sqlIsNull]

theorem filterMatches_exact (d : Defects) (a b : Scalar) (ha : a.transparent = true) :
    (filterMatches d none (some a) (.param b) = true → a = b) ∧
    (filterMatches d none (some a) (.lit b) = true → a = b) := by
  have hn := (sqlIsNull_some a).mp
  have he := sqlEq_eq a b ha
  cases b
  case null =>
    refine ⟨fun h => hn ?_, hn⟩
    simp only [filterMatches] at h
    split at h
    · cases h
    · exact h
  all_goals exact ⟨he, he⟩

theorem setField_other (row : RowVals) (j k : Nat) (v : Scalar) (h : k ≠ j) :
    (setField row j v)[k]? = row[k]? := by
  induction row, j, v using setField.induct generalizing k with
  | case1 => rfl
  | case2 x t v => cases k with
    | zero => exact absurd rfl h
    | succ k => rfl
  | case3 x t j v ih => cases k with
    | zero => rfl
    | succ k => exact ih k (by omega)

theorem setField_same (row : RowVals) (j : Nat) (v : Scalar) (h : j < row.length) :
    (setField row j v)[j]? = some (some v) := by
  induction row, j, v using setField.induct with
  | case1 => simp at h
  | case2 x t v => rfl
  | case3 x t j v ih => exact ih (by simpa using h)

theorem applyUpdate_other (row : RowVals) (sets : List (Nat × Scalar)) (k : Nat)
    (h : ∀ p ∈ sets, p.1 ≠ k) : (applyUpdate row sets)[k]? = row[k]? := by
  induction row, sets using applyUpdate.induct with
  | case1 row => rfl
  | case2 row j v rest ih =>
    rw [applyUpdate, ih fun q hq => h q (List.mem_cons_of_mem _ hq)]
    exact setField_other row j k v (h (j, v) List.mem_cons_self).symm
end Discret.Value
