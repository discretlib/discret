import DiscretModel.Lemmas.SyncRefine

/-! # C03 — refinement, a whole pull: with the whole history compared, `synchronise_room` is a sequence of joins -/

namespace Discret.Sync
open Discret.DailyLog Discret.SyncOrder

section pull
variable {d : Defects} {f : Nat → Nat} (hI : d.ingestIgnoresTombstones = false)

def joinDays (src : Replica) (room : Nat) (l : List (Nat × Nat)) (a : ARep) : ARep :=
  l.foldl (fun a x => join a (abs (slice src room x.1 x.2))) a

include hI in
theorem syncDays_refines {rights : Rights} {src : Replica} (hE : Entitled rights src) (room : Nat) (l : List (Nat × Nat)) :
    ∀ (dst : Replica) (ch : Bool) (k : Nat), PairOk d f dst src →
      abs (syncDays d rights src room l dst ch k).1 = joinDays src room l (abs dst) := by
  induction l with
  | nil => intro dst ch k _; rfl
  | cons a t ih =>
    intro dst ch k h
    obtain ⟨h1, h'⟩ := syncDay_refines hI hE h room a.1 a.2
    simp only [syncDays, joinDays, List.foldl_cons]
    rw [ih _ _ _ h', h1]
    rfl

/-- the days a pull looks at: those of the source's log whose daily hash the puller's log does not show -/
def diffDays (dst src : Replica) (room : Nat) : List (Nat × Nat) :=
  ((roomLog src room).filter fun x =>
    match findRow dst.log { room, ent := x.ent, day := x.row.day } with
    | some l => l.daily != x.row.daily
    | none => true).map fun x => (x.ent, x.row.day)

include hI in
/-- **refinement, one pull.** With the whole history compared (`summaryFirstEntityOnly` off) the rows and node
    deletion records after `synchronise_room` are those before, joined with the source's rows and records of every
    day whose daily hash differs — whatever the two logs hold. -/
theorem pull_refines_days (hS : d.summaryFirstEntityOnly = false) {rights : Rights} {dst src : Replica}
    (hE : Entitled rights src) (h : PairOk d f dst src) (room : Nat) :
    abs (pull d rights dst src room).dst = joinDays src room (diffDays dst src room) (abs dst) := by
  unfold pull
  simp only [hS, Bool.not_false, Bool.true_or, ↓reduceIte]
  rw [← syncDays_refines hI hE room (diffDays dst src room) dst false 0 h]
  unfold diffDays
  -- the log recomputed at the end is not part of the abstract view
  generalize syncDays d rights src room _ dst false 0 = r
  obtain ⟨dst', modified, f⟩ := r
  cases modified
  · rfl
  · exact abs_congr rfl rfl

end pull

end Discret.Sync
