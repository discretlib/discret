/-
The last-writer-wins order on versions `(modification date, signature)` and the replica semilattice it
induces (C03). A version is identified by its date and signature; an abstract replica holds, per row id,
the version it shows (none when the row is deleted or unknown), whether the id carries a deletion record,
and the set of deletion records it stores.
-/
namespace Discret.SyncOrder

abbrev Ver := Nat × Nat

/-- `(mdate, signature)` lexicographic: the comparison of `Node::filter_existing` -/
def vle (a b : Ver) : Prop := a.1 < b.1 ∨ (a.1 = b.1 ∧ a.2 ≤ b.2)

instance (a b : Ver) : Decidable (vle a b) := by unfold vle; exact inferInstance

theorem vle_refl (a : Ver) : vle a a := Or.inr ⟨rfl, Nat.le_refl _⟩

theorem vle_total (a b : Ver) : vle a b ∨ vle b a := by
  rcases Nat.lt_trichotomy a.1 b.1 with h | h | h
  · exact .inl (.inl h)
  · exact (Nat.le_total a.2 b.2).imp (fun h' => .inr ⟨h, h'⟩) fun h' => .inr ⟨h.symm, h'⟩
  · exact .inr (.inl h)

theorem vle_trans {a b c : Ver} (h1 : vle a b) (h2 : vle b c) : vle a c := by
  rcases h1 with h1 | ⟨e1, l1⟩ <;> rcases h2 with h2 | ⟨e2, l2⟩
  · exact .inl (Nat.lt_trans h1 h2)
  · exact .inl (e2 ▸ h1)
  · exact .inl (e1 ▸ h2)
  · exact .inr ⟨e1.trans e2, Nat.le_trans l1 l2⟩

theorem vle_antisymm {a b : Ver} (h1 : vle a b) (h2 : vle b a) : a = b := by
  rcases h1 with h1 | ⟨e1, l1⟩ <;> rcases h2 with h2 | ⟨e2, l2⟩
  · exact absurd h2 (Nat.lt_asymm h1)
  · exact absurd (e2 ▸ h1) (Nat.lt_irrefl _)
  · exact absurd (e1 ▸ h2) (Nat.lt_irrefl _)
  · exact Prod.ext e1 (Nat.le_antisymm l1 l2)

def vmax (a b : Ver) : Ver := if vle a b then b else a

theorem vmax_idem (a : Ver) : vmax a a = a := by simp [vmax]

theorem vle_vmax_left (a b : Ver) : vle a (vmax a b) := by
  unfold vmax; split
  · assumption
  · exact vle_refl a

theorem vle_vmax_right (a b : Ver) : vle b (vmax a b) := by
  unfold vmax; split
  · exact vle_refl b
  · rename_i h
    exact (vle_total a b).resolve_left h

theorem vmax_le {a b c : Ver} (h1 : vle a c) (h2 : vle b c) : vle (vmax a b) c := by
  unfold vmax; split <;> assumption

-- `vmax a b` is the least upper bound of `a` and `b`: it is commutative and associative by antisymmetry
theorem vmax_comm (a b : Ver) : vmax a b = vmax b a :=
  vle_antisymm (vmax_le (vle_vmax_right b a) (vle_vmax_left b a)) (vmax_le (vle_vmax_right a b) (vle_vmax_left a b))

theorem vmax_assoc (a b c : Ver) : vmax (vmax a b) c = vmax a (vmax b c) := by
  apply vle_antisymm
  · refine vmax_le (vmax_le (vle_vmax_left _ _) ?_) ?_
    · exact vle_trans (vle_vmax_left b c) (vle_vmax_right a _)
    · exact vle_trans (vle_vmax_right b c) (vle_vmax_right a _)
  · refine vmax_le ?_ (vmax_le ?_ (vle_vmax_right _ _))
    · exact vle_trans (vle_vmax_left a b) (vle_vmax_left _ c)
    · exact vle_trans (vle_vmax_right a b) (vle_vmax_left _ c)

def merge : Option Ver → Option Ver → Option Ver
  | none, b => b
  | a, none => a
  | some a, some b => some (vmax a b)

theorem merge_idem (a : Option Ver) : merge a a = a := by
  cases a <;> simp [merge, vmax_idem]

theorem merge_comm (a b : Option Ver) : merge a b = merge b a := by
  cases a <;> cases b <;> simp [merge, vmax_comm]

theorem merge_assoc (a b c : Option Ver) : merge (merge a b) c = merge a (merge b c) := by
  cases a <;> cases b <;> cases c <;> simp [merge, vmax_assoc]

theorem merge_none_left (a : Option Ver) : merge none a = a := by cases a <;> rfl
theorem merge_none_right (a : Option Ver) : merge a none = a := by cases a <;> rfl

theorem merge_eq_or : ∀ (a b : Option Ver), merge a b = a ∨ merge a b = b
  | none, _ => .inr rfl
  | some _, none => .inl rfl
  | some a, some b => by
    show some (if vle a b then b else a) = _ ∨ some (if vle a b then b else a) = _
    split
    · exact .inr rfl
    · exact .inl rfl

theorem le_merge_left (v : Ver) : ∀ (b : Option Ver), ∃ w, merge (some v) b = some w ∧ vle v w
  | none => ⟨v, rfl, vle_refl v⟩
  | some b => ⟨vmax v b, rfl, vle_vmax_left v b⟩

theorem le_merge_right (a : Option Ver) (v : Ver) : ∃ w, merge a (some v) = some w ∧ vle v w :=
  merge_comm a (some v) ▸ le_merge_left v a

structure ARep where
  ver : Nat → Option Ver
  dead : Nat → Bool
  recs : Nat → Bool          -- indexed by the signature of the record, not by row id

theorem ARep.ext' {a b : ARep} (h1 : ∀ i, a.ver i = b.ver i) (h2 : ∀ i, a.dead i = b.dead i)
    (h3 : ∀ i, a.recs i = b.recs i) : a = b := by
  cases a; cases b
  simp only [ARep.mk.injEq]
  exact ⟨funext h1, funext h2, funext h3⟩

def join (a b : ARep) : ARep :=
  { ver := fun i => if a.dead i || b.dead i then none else merge (a.ver i) (b.ver i),
    dead := fun i => a.dead i || b.dead i,
    recs := fun i => a.recs i || b.recs i }

def ARep.WF (a : ARep) : Prop := ∀ i, a.dead i = true → a.ver i = none

def ARep.empty : ARep := { ver := fun _ => none, dead := fun _ => false, recs := fun _ => false }

theorem empty_wf : ARep.empty.WF := fun _ h => nomatch h

theorem ARep.WF.ver_ite {a : ARep} (h : a.WF) (i : Nat) : (if a.dead i = true then none else a.ver i) = a.ver i := by
  split
  · rename_i hd; exact (h i hd).symm
  · rfl

theorem join_ver (a b : ARep) (i : Nat) :
    (join a b).ver i = if (a.dead i || b.dead i) = true then none else merge (a.ver i) (b.ver i) := rfl

theorem join_wf (a b : ARep) : (join a b).WF :=
  fun _ h => if_pos h

theorem join_idem {a : ARep} (h : a.WF) : join a a = a := by
  apply ARep.ext'
  · intro i
    rw [join_ver, Bool.or_self, merge_idem]
    exact h.ver_ite i
  · exact fun i => Bool.or_self _
  · exact fun i => Bool.or_self _

theorem join_comm (a b : ARep) : join a b = join b a := by
  apply ARep.ext'
  · intro i; rw [join_ver, join_ver, Bool.or_comm, merge_comm]
  · exact fun i => Bool.or_comm _ _
  · exact fun i => Bool.or_comm _ _

theorem join_assoc (a b c : ARep) : join (join a b) c = join a (join b c) := by
  apply ARep.ext'
  · intro i
    show (if (a.dead i || b.dead i || c.dead i) = true then none else merge ((join a b).ver i) (c.ver i)) =
      if (a.dead i || (b.dead i || c.dead i)) = true then none else merge (a.ver i) ((join b c).ver i)
    rw [Bool.or_assoc]
    cases ha : a.dead i with
    | true => rfl
    | false =>
      cases hb : b.dead i with
      | true => rfl
      | false =>
        cases hc : c.dead i with
        | true => rfl
        | false =>
          rw [join_ver, join_ver, ha, hb, hc]
          exact merge_assoc _ _ _
  · exact fun i => Bool.or_assoc _ _ _
  · exact fun i => Bool.or_assoc _ _ _

theorem join_left_comm (a b c : ARep) : join a (join b c) = join b (join a c) := by
  rw [← join_assoc, join_comm a b, join_assoc]

theorem join_empty_left {a : ARep} (h : a.WF) : join ARep.empty a = a := by
  apply ARep.ext'
  · intro i
    show (if (false || a.dead i) = true then none else merge none (a.ver i)) = _
    rw [Bool.false_or, merge_none_left]
    exact h.ver_ite i
  · exact fun i => Bool.false_or _
  · exact fun i => Bool.false_or _

theorem join_empty_right {a : ARep} (h : a.WF) : join a ARep.empty = a :=
  (join_comm _ _).trans (join_empty_left h)

def le (a b : ARep) : Prop := join a b = b

theorem le_refl {a : ARep} (h : a.WF) : le a a := join_idem h

theorem le_antisymm {a b : ARep} (h1 : le a b) (h2 : le b a) : a = b := by
  unfold le at *
  rw [← h2, join_comm, h1]

theorem le_trans {a b c : ARep} (h1 : le a b) (h2 : le b c) : le a c := by
  unfold le at *
  rw [← h2, ← join_assoc, h1]

theorem le_join_left {a : ARep} (h : a.WF) (b : ARep) : le a (join a b) := by
  unfold le; rw [← join_assoc, join_idem h]

theorem le_join_right {b : ARep} (h : b.WF) (a : ARep) : le b (join a b) := by
  rw [join_comm]; exact le_join_left h a

theorem join_le {a b c : ARep} (h1 : le a c) (h2 : le b c) : le (join a b) c := by
  unfold le at *
  rw [join_assoc, h2, h1]

end Discret.SyncOrder
