import DiscretModel.Lemmas.SyncTombs
/-
C11 for the code with #18 repaired (`ingestIgnoresTombstones := false`, every other switch as in the code — in
particular a synchronised deletion deletes `WHERE room_id = ? AND id = ?` and the deletion log is consulted per room):
a row is never stored again in a room in which the replica holds a deletion record of it — under every pull from any
source whatever, and under every local write that does not itself put the row there.
No hypothesis on the room-scoping switch: the lemmas hold for the code as it is and for the intended behaviour.
-/
namespace Discret.Sync
open Discret.DailyLog

def NoZombieR (r : Replica) : Prop := ∀ t ∈ r.ntombs, ∀ n ∈ r.nodes, n.id = t.id → n.room ≠ t.room

theorem noZombieR_eq_apart : NoZombieR = Apart fun t n => n.room ≠ t.room := rfl

def Replica.deadPairs (r : Replica) : List (Nat × Nat) := r.ntombs.map fun t => (t.id, t.room)

def Clear (tombs : List NTomb) (id room : Nat) : Prop := ∀ t ∈ tombs, t.id = id → t.room ≠ room

theorem NoZombie.toR {r : Replica} (h : NoZombie r) : NoZombieR r :=
  fun t ht n hn e => absurd e (h t ht n hn)

theorem noZombieR_iff (r : Replica) : NoZombieR r ↔ ∀ n ∈ r.nodes, (n.id, n.room) ∉ r.deadPairs := by
  unfold NoZombieR Replica.deadPairs
  constructor
  · intro h n hn hm
    obtain ⟨t, ht, e⟩ := List.mem_map.mp hm
    simp only [Prod.mk.injEq] at e
    exact h t ht n hn e.1.symm e.2.symm
  · intro h t ht n hn e1 e2
    exact h n hn (List.mem_map.mpr ⟨t, ht, by rw [e1, e2]⟩)

theorem noZombieR_iff_clear (r : Replica) : NoZombieR r ↔ ∀ n ∈ r.nodes, Clear r.ntombs n.id n.room := by
  unfold NoZombieR Clear
  constructor
  · intro h n hn t ht e1 e2; exact h t ht n hn e1.symm e2.symm
  · intro h t ht n hn e1 e2; exact h n hn t ht e1.symm e2.symm

theorem KeepsRecords.deadPairs {r r' : Replica} (h : KeepsRecords r r') : ∀ x ∈ r.deadPairs, x ∈ r'.deadPairs := by
  intro x hx
  obtain ⟨t, ht, e⟩ := List.mem_map.mp hx
  obtain ⟨u, hu, e1, e2⟩ := h t ht
  exact List.mem_map.mpr ⟨u, hu, by rw [← e, e1, e2]⟩

section
variable {d : Defects} (hI : d.ingestIgnoresTombstones = false)
include hI

/-- whatever the switches, a record that is stored removes the row from its room, and a requested row carries no
    record of its room on the puller -/
theorem syncDay_noZombieR (rights : Rights) {dst : Replica} (src : Replica) (h : NoZombieR dst) (room ent day : Nat) :
    NoZombieR (syncDay d rights dst src room ent day).dst ∧
      ∀ x ∈ dst.deadPairs, x ∈ (syncDay d rights dst src room ent day).dst.deadPairs :=
  ⟨syncDay_apart hI (fun _ _ hn e => hn (Or.inr e)) rights src h room ent day,
    (syncDay_keepsRecords d rights dst src room ent day).deadPairs⟩

theorem pull_noZombieR (rights : Rights) {dst : Replica} (src : Replica) (h : NoZombieR dst) (room : Nat) :
    NoZombieR (pull d rights dst src room).dst ∧
      ∀ x ∈ dst.deadPairs, x ∈ (pull d rights dst src room).dst.deadPairs :=
  ⟨pull_apart hI (fun _ _ hn e => hn (Or.inr e)) rights src h room, (pull_keepsRecords d rights dst src room).deadPairs⟩

end

/-- the guard of a local write, on the rows the planner sees (`snapNodes`) and the deletion records the writer
    holds (`tombs`). For a write that re-signs the stored version where it is (update that names no room, reference
    change) it is a consequence of the invariant whenever the write is a batch of its own (`WOp.safe_of_noZombieR`). -/
def WOp.safe (snapNodes : List Node) (tombs : List NTomb) : WOp → Prop
  | .new row room _ _ _ => Clear tombs row room
  | .upd row _ _ room => ∀ old ∈ snapNodes, old.id = row → Clear tombs row (room.getD old.room)
  | .ref row _ _ => ∀ old ∈ snapNodes, old.id = row → Clear tombs row old.room
  | .unref row _ _ _ => ∀ old ∈ snapNodes, old.id = row → Clear tombs row old.room
  | .del _ _ => True

/-- outside an open batch the guard only concerns creations and explicit room moves -/
theorem WOp.safe_of_noZombieR {r : Replica} (h : NoZombieR r) :
    (∀ row val sig, WOp.safe r.nodes r.ntombs (.upd row val sig none)) ∧
    (∀ row to sig, WOp.safe r.nodes r.ntombs (.ref row to sig)) ∧
    (∀ row to sig dsig, WOp.safe r.nodes r.ntombs (.unref row to sig dsig)) ∧
    (∀ row dsig, WOp.safe r.nodes r.ntombs (.del row dsig)) := by
  have key : ∀ row, ∀ old ∈ r.nodes, old.id = row → Clear r.ntombs row old.room :=
    fun row old ho e t ht e1 e2 => h t ht old ho (e.trans e1.symm) e2.symm
  exact ⟨fun row _ _ => key row, fun row _ _ => key row, fun row _ _ _ => key row, fun _ _ => trivial⟩

theorem WOp.safe.clear {snapNodes : List Node} {tombs : List NTomb} {op : WOp} (h : op.safe snapNodes tombs)
    {n : Node} (hs : op.stores snapNodes n) : Clear tombs n.id n.room := by
  cases op with
  | new row room ent val sig => rw [hs.1, hs.2]; exact h
  | del row dsig => exact hs.elim
  | upd row val sig room | ref row to sig | unref row to sig dsig =>
    obtain ⟨hid, old, ho, e, hr⟩ := hs
    rw [hid, hr]
    exact h old ho e

theorem effectOf_noZombieR (d : Defects) (w : World) (snap : Replica) {cur : Replica} (h : NoZombieR cur) (p : Nat)
    (op : WOp) (hs : op.safe snap.nodes cur.ntombs) : NoZombieR (effectOf d w snap cur p op).cur := by
  refine effectOf_cases d w snap cur p op NoZombieR h ?_ ?_
  · intro n r hst hn _ et
    refine Apart.store h (fun x hx => ?_) et
    rcases hn x hx with hx | rfl
    · exact Or.inl hx
    · exact Or.inr fun t ht e1 e2 => hs.clear hst t ht e1.symm e2.symm
  · intro old t r _ _ _ hn et
    exact Apart.delete h (fun x hx => ⟨(hn x hx).1, fun e => absurd e (hn x hx).2⟩) et

/-- `WZ` per room: no replica stores a row in a room in which it holds a deletion record of that row -/
def WZR (w : World) : Prop := (∀ r ∈ w.peers, NoZombieR r) ∧ ∀ b, w.batch = some b → NoZombieR b.snap

theorem wzr_eq_wAll : WZR = WAll NoZombieR := rfl

def Op.safe (w : World) : Op → Prop
  | .write p op => op.safe (w.snapOf p).nodes (w.peer p).ntombs
  | _ => True

def runSafe (d : Defects) : World → List Op → Prop
  | _, [] => True
  | w, op :: t => op.safe w ∧ runSafe d (w.exec d op) t

theorem WZR.peer {w : World} (h : WZR w) (p : Nat) : NoZombieR (w.peer p) :=
  WAll.peer (P := NoZombieR) h Apart.empty p

theorem init_WZR (rights : Rights) : WZR (World.initDated rights) := WAll.init Apart.empty rights

section
variable {d : Defects} (hI : d.ingestIgnoresTombstones = false)
include hI

theorem noZombieR_kept : Kept d NoZombieR WOp.safe where
  frame := Apart.frame
  empty := Apart.empty
  pull rights _ src room h _ := (pull_noZombieR hI rights src h room).1
  effect w snap _ p op _ h hs := effectOf_noZombieR d w snap h p op hs

theorem run_noZombieR (ops : List Op) (w : World) (h : WZR w) (hs : runSafe d w ops) :
    StepOn NoZombieR w (World.run d w ops) :=
  run_keeps (noZombieR_kept hI) (runSafe d) (fun _ _ _ h => ⟨fun p wop e => by subst e; exact h.1, h.2⟩) ops w h hs

end

theorem runSafe_append (d : Defects) (ops1 ops2 : List Op) :
    ∀ w, runSafe d w (ops1 ++ ops2) → runSafe d w ops1 ∧ runSafe d (World.run d w ops1) ops2 :=
  run_guard_append (fun _ => trivial) (fun _ _ _ => Iff.rfl) ops1 ops2

end Discret.Sync
