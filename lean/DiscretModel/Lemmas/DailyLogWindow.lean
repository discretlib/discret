import DiscretModel.Lemmas.DailyLog
/-
The window of `DailyLogsUpdate::compute`, literally as the SQL text selects it (`windowSql`, `untouchedSql` in
`Model/DailyLog.lean`), is the structural window the model of the loop walks: on a group whose rows are in
ascending day order (the primary key order of `_daily_log`) it is "the last unmarked row before the first marked
one, then everything from the first marked one onwards", and nothing at all for a group without a marked day.
-/
namespace Discret.DailyLog

theorem le_minDay {b : Nat} {l : List Nat} (h : ∀ y ∈ l, b ≤ y) : ∀ m, minDay l = some m → b ≤ m := by
  induction l with
  | nil => intro m hm; cases hm
  | cons a t ih =>
    intro m hm
    have ha := h a List.mem_cons_self
    simp only [minDay] at hm
    cases ht : minDay t with
    | none => rw [ht] at hm; cases hm; exact ha
    | some mt =>
      rw [ht] at hm; cases hm
      exact Nat.le_min.mpr ⟨ha, ih (fun y hy => h y (List.mem_cons_of_mem _ hy)) mt ht⟩

theorem minDay_cons_sorted (x : Nat) (t : List Nat) (h : ∀ y ∈ t, x < y) : minDay (x :: t) = some x := by
  show (match minDay t with | none => some x | some m => some (min x m)) = some x
  cases hm : minDay t with
  | none => rfl
  | some m => exact congrArg some (Nat.min_eq_left (le_minDay (fun y hy => Nat.le_of_lt (h y hy)) m hm))

theorem maxDay_append_singleton_sorted (l : List Nat) (x : Nat) (h : ∀ y ∈ l, y < x) :
    maxDay (l ++ [x]) = some x := by
  induction l with
  | nil => rfl
  | cons a t ih =>
    show (match maxDay (t ++ [x]) with | none => some a | some m => some (max a m)) = some x
    rw [ih fun y hy => h y (List.mem_cons_of_mem _ hy)]
    exact congrArg some (Nat.max_eq_right (Nat.le_of_lt (h a List.mem_cons_self)))

theorem filter_clean_dirty_nil {l : List DayRow} (h : ∀ r ∈ l, r.dirty = false) : l.filter (·.dirty) = [] :=
  List.filter_eq_nil_iff.mpr fun r hr => by rw [h r hr]; exact Bool.false_ne_true

theorem filter_append_right {α : Type} {p : α → Bool} {A B : List α} (hA : ∀ a ∈ A, p a = false)
    (hB : ∀ b ∈ B, p b = true) : (A ++ B).filter p = B := by
  rw [List.filter_append, List.filter_eq_nil_iff.mpr (fun a ha => by rw [hA a ha]; exact Bool.false_ne_true),
    List.filter_eq_self.mpr hB, List.nil_append]

theorem filter_append_left {α : Type} {p : α → Bool} {A B : List α} (hA : ∀ a ∈ A, p a = true)
    (hB : ∀ b ∈ B, p b = false) : (A ++ B).filter p = A := by
  rw [List.filter_append, List.filter_eq_self.mpr hA,
    List.filter_eq_nil_iff.mpr (fun b hb => by rw [hB b hb]; exact Bool.false_ne_true), List.append_nil]

theorem window_of_split (pre : List DayRow) (r0 : DayRow) (t : List DayRow) (hpre : ∀ r ∈ pre, r.dirty = false)
    (hr0 : r0.dirty = true) (hs : RowsSorted (pre ++ r0 :: t)) :
    windowSql (pre ++ r0 :: t) = pre.getLast?.toList ++ r0 :: t ∧ untouchedSql (pre ++ r0 :: t) = pre.dropLast := by
  obtain ⟨spre, srest, scross⟩ := List.pairwise_append.mp hs
  have hlt_pre : ∀ a ∈ pre, a.day < r0.day := fun a ha => scross a ha r0 List.mem_cons_self
  have hlt_t : ∀ b ∈ t, r0.day < b.day := (List.pairwise_cons.mp srest).1
  have hmin : minDay (((pre ++ r0 :: t).filter (·.dirty)).map (·.day)) = some r0.day := by
    rw [List.filter_append, filter_clean_dirty_nil hpre, List.nil_append, List.filter_cons, hr0]
    apply minDay_cons_sorted
    intro y hy
    obtain ⟨b, hb, e⟩ := List.mem_map.mp hy
    rw [← e]; exact hlt_t b (List.mem_filter.mp hb).1
  have hbefore : (pre ++ r0 :: t).filter (fun r => r.day < r0.day) = pre :=
    filter_append_left (fun a ha => decide_eq_true (hlt_pre a ha)) fun b hb => decide_eq_false (by
      rcases List.mem_cons.mp hb with e | e
      · rw [e]; exact Nat.lt_irrefl _
      · exact Nat.lt_asymm (hlt_t b e))
  -- the lower end of the window: the day of the last row of `pre`, of `r0` if there is none
  have key : ∃ lo, windowLow (pre ++ r0 :: t) = some lo ∧ (∀ a ∈ pre.dropLast, a.day < lo) ∧
      ∀ b ∈ pre.getLast?.toList ++ r0 :: t, lo ≤ b.day := by
    cases hl : pre.getLast? with
    | none =>
      rw [List.getLast?_eq_none_iff.mp hl] at hbefore hmin ⊢
      refine ⟨r0.day, by simp only [windowLow, hmin, hbefore]; rfl, fun a ha => (by cases ha), fun b hb => ?_⟩
      rcases List.mem_cons.mp hb with e | e
      · rw [e]; exact Nat.le_refl _
      · exact Nat.le_of_lt (hlt_t b e)
    | some s =>
      obtain ⟨ys, rfl⟩ := List.getLast?_eq_some_iff.mp hl
      have hys : ∀ a ∈ ys, a.day < s.day :=
        fun a ha => (List.pairwise_append.mp spre).2.2 a ha s (List.mem_singleton.mpr rfl)
      have hs_lt : s.day < r0.day := hlt_pre s (List.mem_append_right _ (List.mem_singleton.mpr rfl))
      refine ⟨s.day, ?_, fun a ha => hys a (by rwa [List.dropLast_concat] at ha), fun b hb => ?_⟩
      · simp only [windowLow, hmin, hbefore, List.map_append, List.map_cons, List.map_nil]
        rw [maxDay_append_singleton_sorted _ _ (fun y hy => by
          obtain ⟨a, ha, e⟩ := List.mem_map.mp hy
          rw [← e]; exact hys a ha)]
        rfl
      · rcases List.mem_cons.mp hb with e | e
        · rw [e]; exact Nat.le_refl _
        · rcases List.mem_cons.mp e with e | e
          · rw [e]; exact Nat.le_of_lt hs_lt
          · exact Nat.le_of_lt (Nat.lt_trans hs_lt (hlt_t b e))
  obtain ⟨lo, hlow, hA, hB⟩ := key
  simp only [windowSql, untouchedSql, hlow]
  rw [show pre ++ r0 :: t = pre.dropLast ++ (pre.getLast?.toList ++ r0 :: t) by
    rw [← List.append_assoc, dropLast_append_getLast?]]
  exact ⟨filter_append_right (fun a ha => decide_eq_false (Nat.not_le.mpr (hA a ha)))
      (fun b hb => decide_eq_true (hB b hb)),
    filter_append_left (fun a ha => decide_eq_true (hA a ha))
      (fun b hb => decide_eq_false (Nat.not_lt.mpr (hB b hb)))⟩

theorem windowSql_eq {rows : List DayRow} (hs : RowsSorted rows) :
    (fromFirstDirty rows = [] → windowSql rows = [] ∧ untouchedSql rows = rows) ∧
    (fromFirstDirty rows ≠ [] →
      windowSql rows = (cleanPrefix rows).getLast?.toList ++ fromFirstDirty rows ∧
      untouchedSql rows = (cleanPrefix rows).dropLast) := by
  have hrows := cleanPrefix_append_fromFirstDirty rows
  have hpre : ∀ r ∈ cleanPrefix rows, r.dirty = false := fun _ => mem_cleanPrefix_clean
  constructor
  · intro hnil
    have hall : ∀ r ∈ rows, r.dirty = false := by
      intro r hr; rw [← hrows, hnil, List.append_nil] at hr; exact hpre r hr
    have hf : rows.filter (·.dirty) = [] := filter_clean_dirty_nil hall
    simp [windowSql, untouchedSql, windowLow, hf, minDay]
  · intro hne
    obtain ⟨r0, t, hrt⟩ := List.exists_cons_of_ne_nil hne
    have hr0 := fromFirstDirty_head hrt
    have hs' : RowsSorted (cleanPrefix rows ++ r0 :: t) := by rw [← hrt, hrows]; exact hs
    have := window_of_split (cleanPrefix rows) r0 t hpre hr0 hs'
    rw [← hrt, hrows] at this
    exact this

theorem recomputeGroup_sql {d : Defects} (hl : d.lazyScan = false) (sigs : Content) (c : Cursor) {g : Group}
    (hs : RowsSorted g.rows) :
    recomputeGroup d sigs c g =
      if (windowSql g.rows).isEmpty then (c, g)
      else ((walkRows d sigs g.room g.ent c (windowSql g.rows)).1,
            { g with rows := untouchedSql g.rows ++ (walkRows d sigs g.room g.ent c (windowSql g.rows)).2 }) := by
  obtain ⟨w1, w2⟩ := windowSql_eq hs
  cases hre : (fromFirstDirty g.rows).isEmpty with
  | true => rw [recomputeGroup_clean hre, (w1 (List.isEmpty_iff.mp hre)).1]; rfl
  | false =>
    have hne : fromFirstDirty g.rows ≠ [] := fun e => by rw [e] at hre; cases hre
    obtain ⟨e1, e2⟩ := w2 hne
    obtain ⟨r0, t, hrt⟩ := List.exists_cons_of_ne_nil hne
    rw [recomputeGroup_window hl hre, e1, e2, if_neg]
    rw [hrt]
    cases (cleanPrefix g.rows).getLast? <;> exact Bool.false_ne_true

end Discret.DailyLog
