import DiscretModel.Model.Query
import DiscretModel.Lemmas.QueryPaging
/-
Lemmas about the reference evaluator `Model/Query.lean`: the order of values, cursors, the shape of `evalRows`,
paging through its result.
-/
namespace Discret.Query

/-- Every order fact about texts and values is read off a code in `List Int` under its lexicographic order. -/
def charCodes (s : List Char) : List Int := s.map fun c => (c.toNat : Int)

theorem ltChars_iff : ∀ s t : List Char, ltChars s t = true ↔ charCodes s < charCodes t := by
  intro s
  induction s with
  | nil => intro t; cases t <;> simp [ltChars, charCodes]
  | cons a s ih =>
    intro t
    cases t with
    | nil => simp [ltChars, charCodes]
    | cons b t =>
      simp only [charCodes] at ih
      simp only [ltChars, charCodes, List.map_cons, List.cons_lt_cons_iff, Bool.or_eq_true, decide_eq_true_eq,
        Bool.and_eq_true, beq_iff_eq, ih, Int.ofNat_lt, Int.ofNat_inj]

theorem ltChars_total (s t : List Char) (h1 : ltChars s t = false) (h2 : ltChars t s = false) : s = t := by
  rw [Bool.eq_false_iff, Ne, ltChars_iff] at h1 h2
  exact (List.map_inj_right fun a b h => Char.toNat_inj.mp (Int.ofNat_inj.mp h)).mp
    (List.le_antisymm (List.not_lt.mp h2) (List.not_lt.mp h1))

theorem ltChars_irrefl (s : List Char) : ltChars s s = false := by
  rw [Bool.eq_false_iff, Ne, ltChars_iff]
  exact List.lt_irrefl _

/-- absent < numbers (booleans as 0/1) < texts -/
def Val.code : Val → List Int
  | .null => [0]
  | .bool b => [1, if b then 1 else 0]
  | .int i => [1, i]
  | .str s => 2 :: charCodes s

theorem Val.lt_iff (a b : Val) : a.lt b = true ↔ a.code < b.code := by
  cases a <;> cases b <;> simp [Val.lt, Val.code, Val.num?, ltChars_iff, List.cons_lt_cons_iff] <;>
    exact ⟨of_decide_eq_true, decide_eq_true⟩

theorem Val.lt_asymm (a b : Val) (h : a.lt b = true) : b.lt a = false := by
  rw [Bool.eq_false_iff, Ne, Val.lt_iff]
  exact List.lt_asymm ((Val.lt_iff a b).mp h)

theorem Val.lt_negtrans (c a b : Val) (h : c.lt a = true) : c.lt b = true ∨ b.lt a = true := by
  rw [Val.lt_iff] at *
  rw [Val.lt_iff]
  by_cases hcb : c.code < b.code
  · exact Or.inl hcb
  · exact Or.inr (List.lt_of_le_of_lt (List.not_lt.mp hcb) h)

/-- values tie exactly when their codes are equal -/
theorem Val.same_iff (a b : Val) : a.same b = true ↔ a.code = b.code := by
  simp only [Val.same, Bool.and_eq_true, Bool.not_eq_eq_eq_not, Bool.not_true, Bool.eq_false_iff, Ne, Val.lt_iff]
  exact ⟨fun h => List.le_antisymm (List.not_lt.mp h.2) (List.not_lt.mp h.1),
    fun h => by rw [h]; exact ⟨List.lt_irrefl _, List.lt_irrefl _⟩⟩

/-- a value may be replaced by one it ties with on either side of a comparison -/
theorem Val.lt_congr {a c : Val} (h : a.same c = true) (b : Val) : a.lt b = c.lt b ∧ b.lt a = b.lt c := by
  constructor <;> rw [Bool.eq_iff_iff, Val.lt_iff, Val.lt_iff, (Val.same_iff a c).mp h]

theorem Val.same_comm (a b : Val) : a.same b = b.same a := by
  simp [Val.same, Bool.and_comm]

theorem afterCursor_eq_tupleLt (d : Defects) (os : List Order) :
    ∀ ks cs : List Val,
      (d.cursorDropsAbsentKeys = true → (∀ k ∈ ks, k ≠ .null) ∧ (∀ c ∈ cs, c ≠ .null)) →
      afterCursor d os ks cs = tupleLt os cs ks := by
  induction os with
  | nil => intro ks cs _; simp [afterCursor, tupleLt]
  | cons o os ih =>
    intro ks cs h
    cases ks with
    | nil => cases cs <;> simp [afterCursor, tupleLt]
    | cons k ks =>
      cases cs with
      | nil => simp [afterCursor, tupleLt]
      | cons c cs =>
        have hp : (!d.cursorDropsAbsentKeys || decide (k ≠ Val.null ∧ c ≠ Val.null)) = true := by
          cases hd : d.cursorDropsAbsentKeys with
          | false => simp
          | true =>
            obtain ⟨h1, h2⟩ := h hd
            simp [h1 k (by simp), h2 c (by simp)]
        have hrec := ih ks cs (fun hd => by
          obtain ⟨h1, h2⟩ := h hd
          exact ⟨fun x hx => h1 x (by simp [hx]), fun x hx => h2 x (by simp [hx])⟩)
        simp only [afterCursor, tupleLt, hp, Bool.true_and, hrec, Val.same_comm k c]

theorem filter_const_true {α : Type} (l : List α) : l.filter (fun _ => true) = l := by simp

theorem evalRows_limited (d : Defects) (s : Schema) (data : Data) (fuel : Nat) (key : String) (q : Query)
    (cands : List Row) :
    evalRows d s data (fuel + 1) key q cands true =
      limit q.first q.skip (evalRows d s data (fuel + 1) key q cands false) := by
  simp [evalRows]

theorem limit_eq (first skip : Nat) {α : Type} (l : List α) :
    limit first skip l = if first = 0 then l.drop skip else (l.drop skip).take first := by
  simp [limit]

/-- the paged variant of a query: `first n`, `after(cur)`, no `skip`, no `before` -/
def pageQuery (q : Query) (n : Nat) (cur : List Val) : Query :=
  Query.mk q.ent q.sels q.filters q.orders n 0 cur []

def fullQuery (q : Query) : Query := Query.mk q.ent q.sels q.filters q.orders 0 0 [] []

theorem holds_query_irrel (d : Defects) (s : Schema) (data : Data) (fuel : Nat) (key : String)
    (e : Nat) (ss : List Sel) (fs fs' : List Filter) (os os' : List Order) (f f' sk sk' : Nat) (af af' bf bf' : List Val)
    (r : Row) (flt : Filter) :
    holds d s data fuel key (Query.mk e ss fs os f sk af bf) r flt =
      holds d s data fuel key (Query.mk e ss fs' os' f' sk' af' bf') r flt := by
  cases fuel <;> rfl

theorem evalRows_filters_perm (d : Defects) (s : Schema) (data : Data) (fuel : Nat) (key : String)
    (ent : Nat) (sels : List Sel) {fs fs' : List Filter} (h : fs.Perm fs') (os : List Order) (first skip : Nat)
    (af bf : List Val) (cands : List Row) (lim : Bool) :
    evalRows d s data (fuel + 1) key (Query.mk ent sels fs os first skip af bf) cands lim =
    evalRows d s data (fuel + 1) key (Query.mk ent sels fs' os first skip af bf) cands lim := by
  have hq : ∀ r, holds d s data fuel key (Query.mk ent sels fs os first skip af bf) r =
      holds d s data fuel key (Query.mk ent sels fs' os first skip af bf) r :=
    fun r => funext fun flt => holds_query_irrel ..
  have hp : ∀ r, fs.all (holds d s data fuel key (Query.mk ent sels fs os first skip af bf) r) =
      fs'.all (holds d s data fuel key (Query.mk ent sels fs' os first skip af bf) r) :=
    fun r => by rw [hq r, h.all_eq]
  simp only [evalRows, Query.ent, Query.sels, Query.filters, Query.orders, Query.after, Query.before,
    Query.first, Query.skip, hp]
  rfl

theorem evalRows_fullQuery (d : Defects) (s : Schema) (data : Data) (fuel : Nat) (key : String) (q : Query)
    (cands : List Row) (b : Bool) :
    evalRows d s data (fuel + 1) key (fullQuery q) cands b =
      sortBy (fun a b => tupleLe q.orders (keysOf d s q.ent q.orders a) (keysOf d s q.ent q.orders b))
        (cands.filter fun r => r.ent = q.ent && q.sels.all (fun sel => subPresent d s data fuel key r sel) &&
          q.filters.all (holds d s data fuel key (fullQuery q) r)) := by
  cases q with
  | mk e ss fs os f sk af bf =>
    cases b <;>
    simp [evalRows, fullQuery, Query.ent, Query.sels, Query.filters, Query.orders, Query.after, Query.before,
      Query.first, Query.skip, cursorHolds, limit, filter_const_true] <;> rfl

/-- Together with `evalRows_limited` and `evalRows_fullQuery`: a query's result is the full query's result, the rows
    the cursors admit kept, then `first` / `skip` applied. -/
theorem evalRows_cursor (d : Defects) (s : Schema) (data : Data) (fuel : Nat) (key : String) (q : Query)
    (cands : List Row) :
    evalRows d s data (fuel + 1) key q cands false =
      (evalRows d s data (fuel + 1) key (fullQuery q) cands false).filter fun r =>
        cursorHolds d q.orders q.after q.before (keysOf d s q.ent q.orders r) := by
  rw [evalRows_fullQuery]
  cases q with
  | mk e ss fs os f sk af bf =>
    have hh : ∀ r, holds d s data fuel key (Query.mk e ss fs os f sk af bf) r =
        holds d s data fuel key (fullQuery (Query.mk e ss fs os f sk af bf)) r :=
      fun r => funext fun flt => holds_query_irrel ..
    simp only [evalRows, Query.ent, Query.sels, Query.filters, Query.orders, Query.after, Query.before, hh]
    rfl

theorem evalRows_pageQuery (d : Defects) (s : Schema) (data : Data) (fuel : Nat) (key : String) (q : Query)
    (cands : List Row) (n : Nat) (hn : 1 ≤ n) (cur : List Val) :
    evalRows d s data (fuel + 1) key (pageQuery q n cur) cands true =
      ((evalRows d s data (fuel + 1) key (fullQuery q) cands false).filter fun r =>
        cur.isEmpty || afterCursor d q.orders (keysOf d s q.ent q.orders r) cur).take n := by
  have hn0 : n ≠ 0 := by omega
  rw [evalRows_limited, evalRows_cursor]
  show limit n 0 ((evalRows d s data (fuel + 1) key (fullQuery q) cands false).filter fun r =>
    cursorHolds d q.orders cur [] (keysOf d s q.ent q.orders r)) = _
  simp [limit, hn0, cursorHolds]

def queryPages (d : Defects) (s : Schema) (data : Data) (fuel : Nat) (key : String) (q : Query)
    (cands : List Row) (n : Nat) : Nat → List Val → List (List Row)
  | 0, _ => []
  | k + 1, cur =>
    let p := evalRows d s data (fuel + 1) key (pageQuery q n cur) cands true
    match p.getLast? with
    | none => []
    | some x => p :: queryPages d s data fuel key q cands n k (keysOf d s q.ent q.orders x)

def toCursor (cur : List Val) : Option (List Val) := if cur.isEmpty then none else some cur

theorem keysOf_length (d : Defects) (s : Schema) (ent : Nat) (os : List Order) (r : Row) :
    (keysOf d s ent os r).length = os.length := by simp [keysOf]

theorem keysOf_ne_nil (d : Defects) (s : Schema) (ent : Nat) {os : List Order} (ho : os ≠ []) (r : Row) :
    keysOf d s ent os r ≠ [] := by
  cases os with
  | nil => exact absurd rfl ho
  | cons o os => simp [keysOf]

theorem toCursor_ne {cur : List Val} (h : cur ≠ []) : toCursor cur = some cur := by
  cases cur with
  | nil => exact absurd rfl h
  | cons a t => rfl

/-- A page of the query is a page of the full result: beyond a cursor made of the keys of a selected row, and with
    no key absent where the code would drop the row, `after` is the strict order of key tuples. -/
theorem evalRows_pageQuery_eq_page (d : Defects) (s : Schema) (data : Data) (fuel : Nat) (key : String) (q : Query)
    (cands : List Row) (n : Nat) (hn : 1 ≤ n) (ho : q.orders ≠ [])
    (hpresent : d.cursorDropsAbsentKeys = true →
      ∀ r ∈ evalRows d s data (fuel + 1) key (fullQuery q) cands false,
        ∀ k ∈ keysOf d s q.ent q.orders r, k ≠ Val.null)
    (cur : List Val)
    (hc : cur = [] ∨ ∃ x ∈ evalRows d s data (fuel + 1) key (fullQuery q) cands false,
      cur = keysOf d s q.ent q.orders x) :
    evalRows d s data (fuel + 1) key (pageQuery q n cur) cands true =
      Paging.page (keysOf d s q.ent q.orders) (tupleLt q.orders) n
        (evalRows d s data (fuel + 1) key (fullQuery q) cands false) (toCursor cur) := by
  rw [evalRows_pageQuery d s data fuel key q cands n hn cur]
  unfold Paging.page
  congr 1
  rcases hc with hc | ⟨x, hx, hc⟩
  · subst hc; simp [toCursor, Paging.beyond]
  · have hne : cur ≠ [] := hc ▸ keysOf_ne_nil d s q.ent ho x
    have hemp : cur.isEmpty = false := List.isEmpty_eq_false_iff.mpr hne
    rw [toCursor_ne hne]
    simp only [hemp, Paging.beyond, Bool.false_or]
    apply List.filter_congr
    intro r hr
    exact afterCursor_eq_tupleLt d q.orders _ _ fun hd => ⟨hpresent hd r hr, hc ▸ hpresent hd x hx⟩

theorem queryPages_eq_pages (d : Defects) (s : Schema) (data : Data) (fuel : Nat) (key : String) (q : Query)
    (cands : List Row) (n : Nat) (hn : 1 ≤ n) (ho : q.orders ≠ [])
    (hpresent : d.cursorDropsAbsentKeys = true →
      ∀ r ∈ evalRows d s data (fuel + 1) key (fullQuery q) cands false,
        ∀ k ∈ keysOf d s q.ent q.orders r, k ≠ Val.null) :
    ∀ (k : Nat) (cur : List Val),
      (cur = [] ∨ ∃ x ∈ evalRows d s data (fuel + 1) key (fullQuery q) cands false,
        cur = keysOf d s q.ent q.orders x) →
      queryPages d s data fuel key q cands n k cur =
        Paging.pages (keysOf d s q.ent q.orders) (tupleLt q.orders) n
          (evalRows d s data (fuel + 1) key (fullQuery q) cands false) k (toCursor cur) := by
  intro k
  induction k with
  | zero => intro cur _; rfl
  | succ k ih =>
    intro cur hc
    simp only [queryPages, Paging.pages, evalRows_pageQuery_eq_page d s data fuel key q cands n hn ho hpresent cur hc]
    split
    · rename_i hl; rw [hl]
    · rename_i x hl
      rw [hl, ih _ (Or.inr ⟨x, Paging.mem_of_mem_page (List.mem_of_getLast? hl), rfl⟩),
        toCursor_ne (keysOf_ne_nil d s q.ent ho x)]

end Discret.Query
