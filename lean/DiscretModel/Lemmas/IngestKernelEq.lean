import DiscretModel.Gen.IngestKernel
import DiscretModel.Lemmas.RoomKernelEq
import DiscretModel.Model.Ingest
/-!
Obligations of translator T8: the validators regenerated from `authorisation_service.rs`
(Gen/IngestKernel.lean) decide what the hand-written ingestion model (Model/Ingest.lean) decides.

The model's inputs are abstractions of the Rust values: `ntiOf` builds the `NodeToInsert` that
`filter_existing` + `add_nodes` hand to `validate_node` for an incoming row `n` and the local row `old` with
the same id; `big` is `serialized_size(node) > max_node_size`.
-/
namespace Discret.Gen.IngestKernel
open Discret.Room Discret.Rust Discret.Ingest Discret.Gen.RoomKernel

/-- the `NodeToInsert` of an incoming row whose entity the data model knows -/
def ntiOf (n : InNode) (old : Option NodeRow) (size : Nat) : NodeToInsert :=
  { node := some { room_id := n.row.room, key := n.row.key, mdate := n.row.mdate, _entity := n.row.ent, size := .ok size },
    entity_name := some n.row.ent,
    old_room_id := old.bind (·.room),
    old_entity := old.map (·.ent),
    old_mdate := (old.map (·.mdate)).getD 0,
    old_verifying_key := old.map (·.key) }

theorem hmGet_findRoom (s : Inst) (r : Nat) :
    hmGet (fun (x : Room) => x.id) s.rooms r = findRoom s r := rfl

/-- `validate_node` (regenerated) = `Ingest.validateNode` for the switches that describe the code:
    a stored row of another entity and a room-less stored row are never replaced -/
theorem validate_node_eq (d : Ingest.Defects) (s : Inst) (n : InNode) (old : Option NodeRow) (size max : Nat)
    (hbig : n.big = decide (size > max))
    (hd1 : d.entityChangeUnchecked = false) (hd2 : d.roomlessReplaceUnchecked = false) :
    RoomAuthorisations_validate_node { rooms := s.rooms, max_node_size := max } (ntiOf n old size)
      = validateNode d s n old := by
  unfold RoomAuthorisations_validate_node validateNode ntiOf canIn serializedSize
  simp only [hmGet_findRoom, Room_can_eq, hd1, hd2, hbig, Bool.false_or]
  -- the early returns of `validate_node` in their order: each step decides one of them and simplifies what is left
  cases n.row.room with
  | none => cases decide (size > max) <;> rfl
  | some room =>
    cases decide (size > max) with
    | true => rfl
    | false =>
      cases old with
      | none =>
        dsimp only [Option.map_none, Option.bind_none, needRight, Bool.true_and]
        cases findRoom s room with
        | none => rfl
        | some rm => cases hc : rm.can n.row.key n.row.ent n.row.mdate .mutateSelf <;> simp [hc]
      | some l =>
        dsimp only [Option.map_some, Option.bind_some]
        by_cases hent : l.ent = n.row.ent
        case neg => simp [hent]
        simp only [hent, decide_true, Bool.not_true, Bool.false_eq_true, if_false, Bool.true_and, Option.isSome_some]
        cases hlr : l.room with
        | none => rfl
        | some oldRoom =>
          simp only [Option.isNone_some, Bool.false_eq_true, if_false]
          by_cases hk : l.key = n.row.key
          -- the same steps for the own-rows and for the all-rows right
          all_goals
            simp only [hk, needRight, decide_true, decide_false, if_true, if_false]
            by_cases he : oldRoom = room
            · subst he
              simp only [decide_true, Bool.not_true, Bool.false_eq_true, if_false, Bool.true_or]
              cases findRoom s oldRoom with
              | none => rfl
              | some rm => dsimp only; generalize rm.can n.row.key n.row.ent n.row.mdate _ = c; cases c <;> rfl
            · simp only [he, decide_false, Bool.not_false, if_true, Bool.false_or]
              cases findRoom s oldRoom with
              | none => rfl
              | some r1 =>
                dsimp only
                generalize r1.can n.row.key n.row.ent n.row.mdate _ = c1
                cases c1
                · rfl
                · simp only [Bool.not_true, Bool.false_eq_true, if_false, Bool.true_and]
                  cases findRoom s room with
                  | none => rfl
                  | some r2 => dsimp only; generalize r2.can n.row.key n.row.ent n.row.mdate _ = c; cases c <;> rfl

/-- the decision of the model for one deletion record whose (source) entity the data model knows:
    the right of the record's author at the deletion date in the room the record names, own-rows right
    when nothing is stored or the stored thing is the author's, all-rows right otherwise -/
def delDecision (s : Inst) (room : Nat) (key : Key) (ent : Option Ent) (ddate : Int) (author : Option Key) : Bool :=
  match ent with
  | none => false
  | some e => canIn s room key e ddate (needRight author key)

/-- one turn of either deletion validator on an entry `x` with these components -/
theorem delEntry_eq {α : Type} (s : Inst) (ent : Option Ent) (room : Nat) (key : Key) (ddate : Int) (author : Option Key)
    (x : α) :
    (match ent with
     | none => none
     | some e =>
       match findRoom s room with
       | none => none
       | some rm =>
         if (match author with
             | some a =>
               (match decide (a = key) with
                | true => rm.can key e ddate RightType.mutateSelf
                | false => rm.can key e ddate RightType.mutateAll)
             | none => rm.can key e ddate RightType.mutateSelf) = true then some x else none)
      = if delDecision s room key ent ddate author = true then some x else none := by
  unfold delDecision canIn needRight
  cases ent with
  | none => rfl
  | some e =>
    cases findRoom s room with
    | none => rfl
    | some rm =>
      cases author with
      | none => rfl
      | some a => by_cases hk : a = key <;> simp [hk]

theorem validate_node_deletions_eq (s : Inst) (max : Nat) (nodes : List (Id × (NodeDeletionEntry × Option Key))) :
    RoomAuthorisations_validate_node_deletions { rooms := s.rooms, max_node_size := max } nodes
      = (nodes.filter fun e => delDecision s e.2.1.room_id e.2.1.key e.2.1.entity_name e.2.1.deletion_date e.2.2).map (·.2.1) := by
  rw [← List.filterMap_eq_map', List.filterMap_filter]
  unfold RoomAuthorisations_validate_node_deletions
  congr 1
  funext x
  simp only [hmGet_findRoom, Room_can_eq]
  exact delEntry_eq s x.2.1.entity_name x.2.1.room_id x.2.1.key x.2.1.deletion_date x.2.2 x.2.1

theorem validate_edge_deletions_eq (s : Inst) (max : Nat) (edges : List (EdgeDeletionEntry × Option Key)) :
    RoomAuthorisations_validate_edge_deletions { rooms := s.rooms, max_node_size := max } edges
      = (edges.filter fun e => delDecision s e.1.room_id e.1.key e.1.entity_name e.1.deletion_date e.2).map (·.1) := by
  rw [← List.filterMap_eq_map', List.filterMap_filter]
  unfold RoomAuthorisations_validate_edge_deletions
  congr 1
  funext x
  simp only [hmGet_findRoom, Room_can_eq]
  exact delEntry_eq s x.1.entity_name x.1.room_id x.1.key x.1.deletion_date x.2 x.1

/-- the model's verdicts are this decision behind the gates that `delete_nodes` / `delete_edges` apply before
    calling the validators (entity known, not an authorisation entity, optional entity / source checks) -/
theorem nodeDelAccepted_decision (d : Ingest.Defects) (s : Inst) (r : NodeDel) :
    nodeDelAccepted d s r =
      (knownEnt r.ent && (d.authEntityUnchecked || !authEnt r.ent) &&
       (d.delEntityUnchecked || match localRow s.nodes r.id with | some l => l.ent = r.ent | none => true) &&
       delDecision s r.room r.key (some r.ent) r.ddate ((localRow s.nodes r.id).map (·.key))) := rfl

theorem edgeDelAccepted_decision (d : Ingest.Defects) (s : Inst) (r : EdgeDel) :
    edgeDelAccepted d s r =
      (knownEnt r.srcEnt && (d.authEntityUnchecked || !authEnt r.srcEnt) &&
       (d.edgeDelSourceUnchecked || edgeDelSourceOk s r) &&
       delDecision s r.room r.key (some r.srcEnt) r.ddate ((s.edges.find? (edgeMatches r)).map (·.key))) := rfl

end Discret.Gen.IngestKernel
