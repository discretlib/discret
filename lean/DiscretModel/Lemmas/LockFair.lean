import DiscretModel.Lemmas.Lock
/-
Fairness of the lock queue (code as fixed by `fix: a waiting peer keeps its place in the lock queue`):
the position of a waiting peer never moves away from the back of the queue, and it moves strictly
closer every time a room it is waiting for (with a live receiver) is granted to somebody else.
-/
namespace Discret.Lock

/-- number of peers that are visited before `p` -/
def rank : List Peer → Peer → Nat
  | [], _ => 0
  | x :: t, p => if x = p then 0 else rank t p + 1

theorem rank_eq_idxOf (l : List Peer) (p : Peer) : rank l p = l.idxOf p := by
  induction l with
  | nil => rfl
  | cons x t ih => rw [rank, ih, List.idxOf_cons, Bool.cond_eq_ite]; simp only [beq_iff_eq]

theorem rank_lt_length {l : List Peer} {p : Peer} (h : p ∈ l) : rank l p < l.length :=
  rank_eq_idxOf l p ▸ List.idxOf_lt_length_of_mem h

theorem rank_append_mem {a b : List Peer} {p : Peer} (h : p ∈ a) : rank (a ++ b) p = rank a p := by
  rw [rank_eq_idxOf, rank_eq_idxOf, List.idxOf_append, if_pos h]

theorem rank_append_not_mem {a b : List Peer} {p : Peer} (h : p ∉ a) :
    rank (a ++ b) p = a.length + rank b p := by
  rw [rank_eq_idxOf, rank_eq_idxOf, List.idxOf_append, if_neg h, Nat.add_comm]

theorem rank_le_of_sublist {l' l : List Peer} (hs : List.Sublist l' l) (hn : l.Nodup) {p : Peer}
    (hp : p ∈ l') : rank l' p ≤ rank l p := by
  induction hs with
  | slnil => cases hp
  | cons a hs' ih =>
    have hne : a ≠ p := fun e => (List.nodup_cons.mp hn).1 (e ▸ hs'.subset hp)
    simp only [rank, if_neg hne]
    exact Nat.le_succ_of_le (ih (List.nodup_cons.mp hn).2 hp)
  | cons_cons a _ ih =>
    simp only [rank]
    split
    · exact Nat.le_refl _
    · next hne =>
      exact Nat.succ_le_succ
        (ih (List.nodup_cons.mp hn).2 ((List.mem_cons.mp hp).resolve_left (Ne.symm hne)))

/-- the served peer `gp` leaves its place (for the end of the queue, or for good), and of the peers
    before it only `kept` remain: nobody else moves back, and those behind `gp` move forward -/
theorem rank_served {pre post kept tail : List Peer} {gp p : Peer}
    (hn : (pre ++ gp :: post).Nodup) (hk : List.Sublist kept pre) (ht : ∀ x ∈ tail, x = gp)
    (hne : p ≠ gp) (hp : p ∈ kept ++ post ++ tail) :
    rank (kept ++ post ++ tail) p ≤ rank (pre ++ gp :: post) p ∧
      (p ∉ pre → rank (kept ++ post ++ tail) p < rank (pre ++ gp :: post) p) := by
  have hp' : p ∈ kept ++ post := (List.mem_append.mp hp).resolve_right fun h => hne (ht p h)
  rw [rank_append_mem hp']
  by_cases hpk : p ∈ kept
  · have hpp : p ∈ pre := hk.subset hpk
    rw [rank_append_mem hpk, rank_append_mem hpp]
    exact ⟨rank_le_of_sublist hk (List.nodup_append.mp hn).1 hpk, fun h => absurd hpp h⟩
  · have hpost : p ∈ post := (List.mem_append.mp hp').resolve_left hpk
    have hnpre : p ∉ pre := fun h =>
      (List.nodup_append.mp hn).2.2 p h p (List.mem_cons_of_mem _ hpost) rfl
    rw [rank_append_not_mem hpk, rank_append_not_mem hnpre, rank, if_neg (Ne.symm hne)]
    exact ⟨Nat.add_le_add hk.length_le (Nat.le_succ _),
      fun _ => Nat.add_lt_add_of_le_of_lt hk.length_le (Nat.lt_succ_self _)⟩

def Blocked (s : State) (req : Req) : Prop := req.ch ∈ s.dead ∨ ∀ x ∈ req.rooms, x ∈ s.locked

theorem turn_none_blocked {s : State} {req : Req} {rooms' : List Room}
    (hres : roomLoop s.locked (!s.dead.contains req.ch) req.rooms.length req.rooms = (rooms', none)) :
    Blocked s req := by
  by_cases hd : req.ch ∈ s.dead
  · exact Or.inl hd
  · rw [live_iff.mpr hd] at hres
    exact Or.inr fun x hx => roomLoop_full_none_locked hres x (roomLoop_none_live_keeps hres x hx)

section
variable {max : Nat}

theorem scan_queue_none {s s' : State} {todo sk : List Peer}
    (h : scan s todo sk = (s', none)) :
    ∃ kept, List.Sublist kept todo ∧ s'.queue = sk ++ kept := by
  fun_induction scan s todo sk with
  | case1 s sk => cases h; exact ⟨[], .slnil, (List.append_nil _).symm⟩
  | case2 s p q sk hl ih =>
    obtain ⟨kept, hk, hq⟩ := ih h
    exact ⟨kept, .cons _ hk, hq⟩
  | case3 s p q sk req hl res reqs' r hr => cases h
  | case4 s p q sk req hl res reqs' hr ih =>
    obtain ⟨kept, hk, hq⟩ := ih h
    split at hq
    · exact ⟨kept, .cons _ hk, hq⟩
    · exact ⟨p :: kept, .cons_cons _ hk, by rw [hq, List.append_assoc]; rfl⟩

theorem scan_queue_some {s s' : State} {todo sk : List Peer} {ch : Ch} {r : Room}
    (hi : Inv max (vstate s sk todo)) (h : scan s todo sk = (s', some (ch, r))) :
    ∃ pre gp post kept reqg tail,
      todo = pre ++ gp :: post ∧ List.Sublist kept pre ∧
      s'.queue = sk ++ (kept ++ post ++ tail) ∧ (∀ x ∈ tail, x = gp) ∧
      (gp, reqg) ∈ s.reqs ∧ reqg.ch = ch ∧
      ∀ p' ∈ pre, ∀ req', (p', req') ∈ s.reqs → Blocked s req' := by
  fun_induction scan s todo sk with
  | case1 s sk => cases h
  | case2 s p q sk hl ih => exact absurd hl hi.lookup_head
  | case3 s p q sk req hl res reqs' r' hr =>
    cases h
    by_cases he : res.1.isEmpty = true
    · exact ⟨[], p, q, [], req, [], rfl, .slnil, by rw [if_pos he, List.append_nil]; rfl,
        (fun _ hx => nomatch hx), lookup_some_mem hl, rfl, fun _ hp' => nomatch hp'⟩
    · exact ⟨[], p, q, [], req, [p], rfl, .slnil, by rw [if_neg he]; rfl,
        fun _ hx => List.mem_singleton.mp hx, lookup_some_mem hl, rfl, fun _ hp' => nomatch hp'⟩
  | case4 s p q sk req hl res reqs' hr ih =>
    obtain ⟨pre1, gp, post, kept1, reqg, tail, e1, hk, hq, ht, hmg, hcg, hbl⟩ := ih (turn_none_inv hi) h
    have hnq : p ∉ q :=
      (List.nodup_cons.mp (List.nodup_append.mp hi.queueNodup).2.1).1
    have hgq : gp ∈ q := by rw [e1]; exact List.mem_append_right _ List.mem_cons_self
    have hgp : gp ≠ p := fun e => hnq (e ▸ hgq)
    have hmg0 : (gp, reqg) ∈ s.reqs :=
      (mem_turnReqs.mp hmg).elim And.left fun h => absurd h.2.1 hgp
    have hblocked : ∀ p' ∈ p :: pre1, ∀ req', (p', req') ∈ s.reqs → Blocked s req' := by
      intro p' hp' req' hm'
      rcases List.mem_cons.mp hp' with rfl | e
      · cases mem_uniq hi.keysNodup (lookup_some_mem hl) hm'
        exact turn_none_blocked (Prod.ext rfl hr : roomLoop _ _ _ _ = (res.1, none))
      · have hpq : p' ∈ q := by rw [e1]; exact List.mem_append_left _ e
        have hne : p' ≠ p := fun e2 => hnq (e2 ▸ hpq)
        exact hbl p' e req' (mem_turnReqs.mpr (Or.inl ⟨hm', hne⟩))
    by_cases he : res.1.isEmpty = true
    · rw [if_pos he] at hq
      exact ⟨p :: pre1, gp, post, kept1, reqg, tail, congrArg (p :: ·) e1, .cons _ hk, hq, ht, hmg0, hcg,
        hblocked⟩
    · rw [if_neg he] at hq
      exact ⟨p :: pre1, gp, post, p :: kept1, reqg, tail, congrArg (p :: ·) e1, .cons_cons _ hk,
        hq.trans (List.append_assoc sk [p] _), ht, hmg0, hcg, hblocked⟩

theorem acquire_some_rank {s s' : State} {ch : Ch} {r : Room} (hi : Inv max s)
    (h : acquire s = (s', some (ch, r))) {p : Peer} {req : Req} (hm : (p, req) ∈ s.reqs)
    (hq' : p ∈ s'.queue) (hch : req.ch ≠ ch) :
    rank s'.queue p ≤ rank s.queue p ∧ (¬ Blocked s req → rank s'.queue p < rank s.queue p) := by
  obtain ⟨pre, gp, post, kept, reqg, tail, e1, hk, hq, ht, hmg, hcg, hbl⟩ :=
    scan_queue_some (vstate_acquire hi) h
  have hq : s'.queue = kept ++ post ++ tail := hq
  have hne : p ≠ gp := by
    rintro rfl
    cases mem_uniq hi.keysNodup hm hmg
    exact hch hcg
  rw [hq] at hq' ⊢
  rw [e1]
  have hr := rank_served (e1 ▸ hi.queueNodup) hk ht hne hq'
  exact ⟨hr.1, fun hnb => hr.2 fun hp => hnb (hbl p hp req hm)⟩

theorem acquire_rank_le {s s' : State} {g : Option (Ch × Room)} (hi : Inv max s)
    (h : acquire s = (s', g)) {p : Peer} {req : Req} (hm : (p, req) ∈ s.reqs) (hq' : p ∈ s'.queue)
    (hnot : ∀ ch r, g = some (ch, r) → req.ch ≠ ch) : rank s'.queue p ≤ rank s.queue p := by
  cases g with
  | none =>
    obtain ⟨kept, hk, hq⟩ := scan_queue_none h
    rw [List.nil_append] at hq
    rw [hq] at hq' ⊢
    exact rank_le_of_sublist hk hi.queueNodup hq'
  | some cr => exact (acquire_some_rank hi h hm hq' (hnot cr.1 cr.2 rfl)).1

theorem acquire_keeps_channel {s s' : State} {g : Option (Ch × Room)} (hi : Inv max s)
    (ha : 0 < s.avail) (h : acquire s = (s', g)) {p : Peer} {req : Req} (hm : (p, req) ∈ s.reqs)
    (hq' : p ∈ s'.queue) : ∃ req', (p, req') ∈ s'.reqs ∧ req'.ch = req.ch := by
  obtain ⟨req', hm'⟩ := exists_req_of_mem_queue (acquire_inv hi ha h) hq'
  obtain ⟨req0, hm0, hc0, _⟩ := (scan_sub h).reqs p req' hm'
  cases mem_uniq hi.keysNodup hm hm0
  exact ⟨req', hm', hc0⟩

theorem acquireN_rank_le {n : Nat} {s s2 : State} {gs : List (Ch × Room)} (hi : Inv max s)
    (hn : n ≤ s.avail) (h : acquireN n s = (s2, gs)) {p : Peer} {req : Req} (hm : (p, req) ∈ s.reqs)
    (hq' : p ∈ s2.queue) (hnot : ∀ g ∈ gs, g.1 ≠ req.ch) : rank s2.queue p ≤ rank s.queue p := by
  fun_induction acquireN n s generalizing s2 gs req with
  | case1 s => cases h; exact Nat.le_refl _
  | case2 n s s1 g ha1 s2' gs' ha2 ih =>
    cases h
    have hpos : 0 < s.avail := Nat.lt_of_lt_of_le (Nat.succ_pos n) hn
    have hi1 := acquire_inv hi hpos ha1
    have hav : n ≤ s1.avail := Nat.le_trans (Nat.le_sub_one_of_lt hn) (scan_avail ha1)
    obtain ⟨hi2, hsub12, _⟩ := acquireN_spec hi1 hav ha2
    -- `p` is still queued after the first round (requests only disappear)
    have hq1 : p ∈ s1.queue := by
      obtain ⟨req2, hm2⟩ := exists_req_of_mem_queue hi2 hq'
      obtain ⟨req1, hm1, _⟩ := hsub12.reqs p req2 hm2
      exact mem_queue_of_mem_reqs hi1 hm1
    obtain ⟨req1, hm1, hc1⟩ := acquire_keeps_channel hi hpos ha1 hm hq1
    have hle1 : rank s1.queue p ≤ rank s.queue p :=
      acquire_rank_le hi ha1 hm hq1 fun ch r e e2 =>
        hnot (ch, r) (List.mem_append_left _ (by simp [e])) e2.symm
    have hle2 : rank s2'.queue p ≤ rank s1.queue p :=
      ih hi1 hav ha2 hm1 hq' fun g' hg' => hc1 ▸ hnot g' (List.mem_append_right _ hg')
    exact Nat.le_trans hle2 hle1

theorem pre_keeps {s : State} (hi : Inv max s) {op : Op} {p : Peer} {req : Req}
    (hm : (p, req) ∈ s.reqs) (hop : ∀ rooms ch, op ≠ .request p rooms ch) :
    (p, req) ∈ (pre s op).reqs ∧ rank (pre s op).queue p = rank s.queue p := by
  cases op with
  | request p0 rooms ch =>
    have hne : p ≠ p0 := fun e => hop rooms ch (e ▸ rfl)
    simp only [pre, requestPre]
    split
    · exact ⟨List.mem_cons_of_mem _ (mem_erase.mpr ⟨hm, hne⟩), rfl⟩
    · exact ⟨List.mem_cons_of_mem _ hm, rank_append_mem (mem_queue_of_mem_reqs hi hm)⟩
  | unlock r => simp only [pre]; split <;> exact ⟨hm, rfl⟩
  | drop ch => exact ⟨hm, rfl⟩

theorem step_rank_le {s : State} (hi : Inv max s) (op : Op) {p : Peer} {req : Req}
    (hm : (p, req) ∈ s.reqs) (hq' : p ∈ (step s op).1.queue)
    (hnot : ∀ g ∈ (step s op).2, g.1 ≠ req.ch) (hop : ∀ rooms ch, op ≠ .request p rooms ch) :
    rank (step s op).1.queue p ≤ rank s.queue p := by
  obtain ⟨hm1, hr1⟩ := pre_keeps hi hm hop
  rw [← hr1]
  exact acquireN_rank_le (pre_inv hi op) (rounds_le s op) (step_eq s op).symm hm1 hq' hnot

theorem unlock_bypass_rank_lt {s : State} (hi : Inv max s) {r0 : Room} (hr0 : r0 ∈ s.locked)
    {p : Peer} {req : Req} (hm : (p, req) ∈ s.reqs) (hq' : p ∈ (step s (.unlock r0)).1.queue)
    {ch : Ch} {r : Room} (hg : (ch, r) ∈ (step s (.unlock r0)).2) (hch : req.ch ≠ ch)
    (hlive : req.ch ∉ s.dead) (hw : r ∈ req.rooms) :
    rank (step s (.unlock r0)).1.queue p < rank s.queue p := by
  obtain ⟨s2, g, ha, hst⟩ := step_unlock_cases hr0
  rw [hst] at hq' hg ⊢
  cases g with
  | none => simp at hg
  | some cr =>
    cases List.mem_singleton.mp hg
    -- the request of `p` was not blocked: its receiver is live and `r` was free
    exact (acquire_some_rank (unlockPre_inv hi hr0) ha (s := unlockPre s r0) hm hq' hch).2 fun hb =>
      hb.elim hlive fun hl => (scan_some ha).1 (hl r hw)

end

end Discret.Lock
