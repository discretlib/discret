import DiscretModel.Gen.RoomNodeKernel
import DiscretModel.Lemmas.RoomKernelEq
import DiscretModel.Model.RoomNode
/-!
Obligations of translator T11: the entitlement checks regenerated from `room_node.rs` (Gen/RoomNodeKernel.lean) take the
decision of the hand-written model (Model/RoomNode.lean) that C07 and C10 are proved about.

The model's candidate is abstracted into the structures of Model/RoomNodeKernelTypes.lean by `absRoom` / `absAuth`
(author and date of every row, author and date of the references room → group); `x.parse()` is the model's `parse`
with its errors forgotten (`liftP`). The decision compared is accept / refuse (`Except.toBool`).
-/
namespace Discret.Gen.RoomNodeKernel
open Discret.Room Discret.Rust Discret.Gen.RoomKernel
open Discret.RoomNode (SRow PEdge AuthNode RErr)

def absNode (n : SRow) : Node := { key := n.author, mdate := n.mdate }
def absEdge (e : PEdge) : Edge := { key := e.author, cdate := e.cdate }
def absUser (n : SRow) : UserNode := { node := absNode n }
def absRight (n : SRow) : EntityRightNode := { node := absNode n }
def absAuth (a : AuthNode) : AuthorisationNode :=
  { node := absNode a.node, right_nodes := a.rightNodes.map absRight, user_nodes := a.userNodes.map absUser,
    user_admin_nodes := a.userAdminNodes.map absUser }
def absRoom (r : Discret.RoomNode.RoomNode) : RoomNode :=
  { admin_nodes := r.adminNodes.map absUser, auth_edges := r.authEdges.map absEdge, auth_nodes := r.authNodes.map absAuth }

def liftP {α : Type} : Except RErr α → Except Error α
  | .ok x => .ok x
  | .error _ => .error .other

theorem forReturn_verdict {α : Type} (l : List α) (body : α → Option (Except Error Unit)) (ok : α → Bool)
    (h : ∀ a, ∃ e, body a = if ok a then none else some (.error e)) :
    ∃ e, forReturn l body = if l.all ok then none else some (.error e) := by
  unfold forReturn
  induction l with
  | nil => exact ⟨.other, rfl⟩
  | cons a t ih =>
    obtain ⟨e, he⟩ := h a
    cases hok : ok a
    · exact ⟨e, by simp [he, hok]⟩
    · obtain ⟨e', ih⟩ := ih
      exact ⟨e', by simp [he, hok, ih]⟩

theorem forReturn_map {α β ρ : Type} (l : List α) (f : α → β) (body : β → Option ρ) :
    forReturn (l.map f) body = forReturn l (fun a => body (f a)) := by
  unfold forReturn
  induction l with
  | nil => rfl
  | cons a t ih => simp [List.findSome?_cons, ih]

theorem groups_placed_by_admins_eq (room : Room) (r : Discret.RoomNode.RoomNode) :
    groups_placed_by_admins room (absRoom r) = Discret.RoomNode.groupsPlacedByAdmins room r := by
  unfold groups_placed_by_admins Discret.RoomNode.groupsPlacedByAdmins absRoom
  simp [List.all_map, Room_is_admin_eq, absEdge, Function.comp_def]

theorem prepare_new_auth_eq (room : Room) (a : AuthNode) :
    (prepare_new_auth (liftP a.parse) room (absAuth a)).toBool =
      (Discret.RoomNode.prepareNewAuth Discret.RoomNode.Defects.asImplemented room a).toBool := by
  unfold prepare_new_auth Discret.RoomNode.prepareNewAuth
  cases hp : a.parse with
  | error e => rfl
  | ok au =>
    simp only [liftP, absAuth, ← Bool.not_or, forReturn_isSome, ← List.not_all_eq_any_not, List.all_map,
      Function.comp_def, absUser, absRight, absNode, Room_is_admin_eq, Auth_can_admin_users_eq]
    cases a.userNodes.all (fun n => au.canAdminUsers n.author n.mdate || room.isAdmin n.author n.mdate)
    · rfl
    cases a.rightNodes.all (fun n => room.isAdmin n.author n.mdate)
    · rfl
    cases a.userAdminNodes.all (fun n => room.isAdmin n.author n.mdate) <;> rfl

theorem prepare_new_room_eq (r : Discret.RoomNode.RoomNode) :
    (prepare_new_room (liftP r.parse) (absRoom r)).toBool =
      (Discret.RoomNode.prepareNewRoom (!Discret.RoomNode.Defects.asImplemented.placingEdgeUnchecked) r).toBool := by
  unfold prepare_new_room Discret.RoomNode.prepareNewRoom
  cases hp : r.parse with
  | error e => rfl
  | ok room =>
    simp only [liftP, groups_placed_by_admins_eq]
    simp only [absRoom, forReturn_map]
    generalize hfr : forReturn r.authNodes _ = X
    -- one group passes the loop body exactly when it passes the model's test
    obtain ⟨e, hx⟩ : ∃ e, X = if (r.authNodes.all fun a => room.isAdmin a.node.author a.node.mdate &&
        a.userNodes.all (fun n => room.isAdmin n.author n.mdate) &&
        a.rightNodes.all (fun n => room.isAdmin n.author n.mdate) &&
        a.userAdminNodes.all (fun n => room.isAdmin n.author n.mdate)) then none else some (.error e) := by
      rw [← hfr]
      refine forReturn_verdict _ _ _ fun a => ?_
      simp only [absAuth, forReturn_isSome, ← List.not_all_eq_any_not, List.all_map, Function.comp_def, absUser,
        absRight, absNode, Room_is_admin_eq]
      cases room.isAdmin a.node.author a.node.mdate
      · exact ⟨_, rfl⟩
      cases a.userNodes.all (fun n => room.isAdmin n.author n.mdate)
      · exact ⟨_, rfl⟩
      cases a.rightNodes.all (fun n => room.isAdmin n.author n.mdate)
      · exact ⟨_, rfl⟩
      cases a.userAdminNodes.all (fun n => room.isAdmin n.author n.mdate)
      · exact ⟨_, rfl⟩
      · exact ⟨.other, rfl⟩
    simp only [forReturn_isSome, ← List.not_all_eq_any_not, absUser, absNode, Room_is_admin_eq, hx]
    -- the code checks the references room → group: the switch is off in `Defects.asImplemented`
    have hc : (!Discret.RoomNode.Defects.asImplemented.placingEdgeUnchecked) = true := rfl
    rw [hc]
    cases Discret.RoomNode.groupsPlacedByAdmins room r
    · rfl
    cases r.adminNodes.all (fun n => room.isAdmin n.author n.mdate)
    · rfl
    cases (r.authNodes.all fun a => room.isAdmin a.node.author a.node.mdate &&
      a.userNodes.all (fun n => room.isAdmin n.author n.mdate) &&
      a.rightNodes.all (fun n => room.isAdmin n.author n.mdate) &&
      a.userAdminNodes.all (fun n => room.isAdmin n.author n.mdate)) <;> rfl

end Discret.Gen.RoomNodeKernel
