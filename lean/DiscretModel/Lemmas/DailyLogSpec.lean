import DiscretModel.Lemmas.DailyLogRecompute
import DiscretModel.Lemmas.Basic
/-
The specification `IsLogOf` determines the table (function of the content), is invariant under
re-ordering of the stored rows, and distinguishes contents (the hash is the identity on what it is fed).
-/
namespace Discret.DailyLog

def SigsSorted (l : List Nat) : Prop := l.Pairwise (· ≤ ·)

theorem insertSorted_eq_ordInsert (x : Nat) (l : List Nat) :
    insertSorted x l = ordInsert (fun a b => decide (a ≤ b)) x l := by
  induction l with
  | nil => rfl
  | cons y t ih => simp only [insertSorted, ordInsert, ih, decide_eq_true_eq]

theorem sortSigs_eq_insertionSort (l : List Nat) : sortSigs l = insertionSort (fun a b => decide (a ≤ b)) l := by
  induction l with
  | nil => rfl
  | cons x t ih => rw [sortSigs, ih, insertSorted_eq_ordInsert]; rfl

theorem sortSigs_perm (l : List Nat) : (sortSigs l).Perm l :=
  sortSigs_eq_insertionSort l ▸ insertionSort_perm _ l

theorem sortSigs_sorted (l : List Nat) : SigsSorted (sortSigs l) :=
  sortSigs_eq_insertionSort l ▸
    (insertionSort_sorted _ (fun a b => by simp only [decide_eq_false_iff_not, decide_eq_true_eq]; omega)
      (fun a b c => by simp only [decide_eq_true_eq]; omega) l).imp of_decide_eq_true

theorem sorted_ext {α : Type} (lt : α → α → Prop) (irr : ∀ a, ¬ lt a a) (asym : ∀ a b, lt a b → ¬ lt b a)
    (l1 l2 : List α) (h1 : l1.Pairwise lt) (h2 : l2.Pairwise lt) (hm : ∀ a, a ∈ l1 ↔ a ∈ l2) : l1 = l2 :=
  have nodup : ∀ {l : List α}, l.Pairwise lt → l.Nodup := fun h =>
    List.Pairwise.imp (S := (· ≠ ·)) (fun {a b} (hab : lt a b) (e : a = b) => irr b (e ▸ hab)) h
  ((List.perm_ext_iff_of_nodup (nodup h1) (nodup h2)).mpr hm).eq_of_pairwise
    (fun a b _ _ x y => absurd y (asym a b x)) h1 h2

theorem sortSigs_eq_of_perm {l1 l2 : List Nat} (hp : l1.Perm l2) : sortSigs l1 = sortSigs l2 :=
  ((sortSigs_perm l1).trans (hp.trans (sortSigs_perm l2).symm)).eq_of_pairwise
    (fun _ _ _ _ => Nat.le_antisymm) (sortSigs_sorted l1) (sortSigs_sorted l2)

theorem perm_of_sortSigs_eq {l1 l2 : List Nat} (h : sortSigs l1 = sortSigs l2) : l1.Perm l2 :=
  (sortSigs_perm l1).symm.trans (h ▸ sortSigs_perm l2)

theorem dailyOf_congr {l1 l2 : List Nat} (hp : l1.Perm l2) : dailyOf l1 = dailyOf l2 := by
  rw [dailyOf, dailyOf, sortSigs_eq_of_perm hp, hp.isEmpty_eq]

/-- the idealised hash is injective: equal daily hashes, equal signature multisets -/
theorem dailyOf_inj {l1 l2 : List Nat} (h1 : l1 ≠ []) (h : dailyOf l1 = dailyOf l2) : l1.Perm l2 := by
  unfold dailyOf at h
  cases l1 with
  | nil => exact absurd rfl h1
  | cons a t =>
    cases l2 with
    | nil => simp at h
    | cons b s =>
      simp only [List.isEmpty_cons, Bool.false_eq_true, ↓reduceIte, Option.some.injEq, Hash.daily.injEq] at h
      exact perm_of_sortSigs_eq h

theorem group_unique_of_sorted {log : Log} (hs : GroupsSorted log) {g g' : Group} (hg : g ∈ log) (hg' : g' ∈ log)
    (hr : g.room = g'.room) (he : g.ent = g'.ent) : g = g' := by
  induction log with
  | nil => cases hg
  | cons a t ih =>
    have h1 := (List.pairwise_cons.mp hs).1
    have h2 := (List.pairwise_cons.mp hs).2
    rcases List.mem_cons.mp hg with e | e <;> rcases List.mem_cons.mp hg' with e' | e'
    · rw [e, e']
    · subst e; have := h1 g' e'; rw [hr, he] at this; exact absurd this (keyLt_irrefl _ _)
    · subst e'; have := h1 g e; rw [hr, he] at this; exact absurd this (keyLt_irrefl _ _)
    · exact ih h2 e e'

theorem IsLogOf.days_iff {sigs : Content} {log : Log} (h : IsLogOf sigs log) {g : Group} (hg : g ∈ log) (day : Nat) :
    day ∈ g.rows.map (·.day) ↔ sigs g.room g.ent day ≠ [] := by
  constructor
  · intro hd
    obtain ⟨r, hr, hrd⟩ := List.mem_map.mp hd
    subst hrd
    exact (h.rows g hg).2.1 r hr
  · intro hne
    obtain ⟨g', hg', hr, he, r, hrm, hrd⟩ := h.covers g.room g.ent day hne
    have : g' = g := group_unique_of_sorted h.groups hg' hg hr he
    subst this
    exact List.mem_map.mpr ⟨r, hrm, hrd⟩

theorem IsLogOf.unique {sigs : Content} {l1 l2 : Log} (h1 : IsLogOf sigs l1) (h2 : IsLogOf sigs l2) : l1 = l2 := by
  have key : ∀ {la lb : Log}, IsLogOf sigs la → IsLogOf sigs lb → ∀ g ∈ la, g ∈ lb := by
    intro la lb ha hb g hg
    -- a row of g gives a day with content, hence a group of lb with the same key
    obtain ⟨r, hr⟩ := List.exists_mem_of_ne_nil _ (ha.nonemptyGroups g hg)
    have hne := (ha.rows g hg).2.1 r hr
    obtain ⟨g', hg', hrm, hen, _⟩ := hb.covers g.room g.ent r.day hne
    have hdays : g.rows.map (·.day) = g'.rows.map (·.day) := by
      refine sorted_ext (· < ·) (fun a => Nat.lt_irrefl a) (fun a b x y => by omega) _ _
        ((rowsSorted_iff _).mp (ha.rows g hg).1) ((rowsSorted_iff _).mp (hb.rows g' hg').1) ?_
      intro dd
      rw [ha.days_iff hg, hb.days_iff hg', hrm, hen]
    have hrows : g.rows = g'.rows := by
      rw [(ha.rows g hg).2.2, (hb.rows g' hg').2.2, hdays, hrm, hen]
    have : g = g' := by
      cases g; cases g'; simp only at hrm hen hrows; subst hrm hen hrows; rfl
    rw [this]; exact hg'
  refine sorted_ext (fun a b : Group => keyLt a.room a.ent b.room b.ent) (fun a => keyLt_irrefl _ _)
    (fun a b x y => by unfold keyLt at *; omega) l1 l2 h1.groups h2.groups ?_
  intro g
  exact ⟨key h1 h2 g, key h2 h1 g⟩

theorem IsLogOf.congr {sigs sigs' : Content} {log : Log} (h : IsLogOf sigs log)
    (hp : ∀ r e d, (sigs r e d).Perm (sigs' r e d)) : IsLogOf sigs' log := by
  have hne : ∀ r e d, sigs' r e d ≠ [] ↔ sigs r e d ≠ [] := fun r e d =>
    not_congr ⟨fun h => (h ▸ hp r e d).eq_nil, fun h => (h ▸ (hp r e d).symm).eq_nil⟩
  refine ⟨h.groups, h.nonemptyGroups, ?_, ?_⟩
  · intro g hg
    obtain ⟨a, b, c⟩ := h.rows g hg
    refine ⟨a, fun r hr => (hne _ _ _).mpr (b r hr), ?_⟩
    rw [specRows, specRowsFrom_congr none _ fun d _ => ⟨(hp _ _ d).length_eq.symm, dailyOf_congr (hp _ _ d).symm⟩]
    exact c
  · intro room ent day hd
    exact h.covers room ent day ((hne _ _ _).mp hd)

theorem IsLogOf.injective {sigs sigs' : Content} {log : Log} (h : IsLogOf sigs log) (h' : IsLogOf sigs' log) :
    ∀ r e d, (sigs r e d).Perm (sigs' r e d) := by
  intro r e d
  by_cases hne : sigs r e d = []
  · by_cases hne' : sigs' r e d = []
    · rw [hne, hne']
    · exfalso
      obtain ⟨g, hg, hr, he, x, hx, hxd⟩ := h'.covers r e d hne'
      have := (h.rows g hg).2.1 x hx
      rw [hr, he, hxd] at this
      exact this hne
  · obtain ⟨g, hg, hr, he, x, hx, hxd⟩ := h.covers r e d hne
    -- the row of that day carries the daily hash of both contents
    have e := (h.rowRight hg hx).2.2.symm.trans (h'.rowRight hg hx).2.2
    rw [hr, he, hxd] at e
    exact dailyOf_inj hne e

theorem findRow_some {log : Log} {k : Key} {l : DayRow} (h : findRow log k = some l) :
    ∃ g ∈ log, g.room = k.room ∧ g.ent = k.ent ∧ l ∈ g.rows ∧ l.day = k.day := by
  unfold findRow at h
  split at h
  · rename_i g hg
    have hp : g.room = k.room ∧ g.ent = k.ent := by simpa using List.find?_some hg
    exact ⟨g, List.mem_of_find?_eq_some hg, hp.1, hp.2, List.mem_of_find?_eq_some h, by simpa using List.find?_some h⟩
  · cases h

end Discret.DailyLog
