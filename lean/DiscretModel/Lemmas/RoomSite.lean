import DiscretModel.Lemmas.RoomBuild
/-
The invariant of an instance (`Site`): every room held in memory agrees with the rows stored for it and is
well-formed, and every stored room is held in memory. It is established by the empty instance and
preserved by local room mutations, by imports of any candidate, and (when reload replays in ascending
order, normalises rights and loads every room) by restart.
-/
namespace Discret.RoomBuild
open Discret.Room

theorem getMem_some {s : Site} {rid : Id} {r : Room} (h : s.getMem rid = some r) : r.id = rid :=
  (find_key_some (key := Room.id) h).2

theorem getStored_some {s : Site} {rid : Id} {rr : RoomRow} (h : s.getStored rid = some rr) : rr.rid = rid :=
  (find_key_some (key := RoomRow.rid) h).2

theorem getMem_setMem (s : Site) (r : Room) (rid : Id) :
    (s.setMem r).getMem rid = if rid = r.id then some r else s.getMem rid := by
  rw [Site.getMem, Site.setMem, apply_ite Site.mem]
  exact find_key_upsert Room.id s.mem r rid

theorem getStored_setStored (s : Site) (rr : RoomRow) (rid : Id) :
    (s.setStored rr).getStored rid = if rid = rr.rid then some rr else s.getStored rid := by
  rw [Site.getStored, Site.setStored, apply_ite Site.stored]
  exact find_key_upsert RoomRow.rid s.stored rr rid

@[simp] theorem noteInserted_stored (s : Site) (rr : RoomRow) : (s.noteInserted rr).stored = s.stored := rfl
@[simp] theorem noteInserted_mem (s : Site) (rr : RoomRow) : (s.noteInserted rr).mem = s.mem := rfl
@[simp] theorem noteInserted_dead (s : Site) (rr : RoomRow) : (s.noteInserted rr).dead = s.dead := rfl

theorem setMem_stored (s : Site) (r : Room) : (s.setMem r).stored = s.stored := by
  rw [Site.setMem, apply_ite Site.stored]; exact ite_self _
theorem setStored_mem (s : Site) (rr : RoomRow) : (s.setStored rr).mem = s.mem := by
  rw [Site.setStored, apply_ite Site.mem]; exact ite_self _
theorem setMem_dead (s : Site) (r : Room) : (s.setMem r).dead = s.dead := by
  rw [Site.setMem, apply_ite Site.dead]; exact ite_self _
theorem setStored_dead (s : Site) (rr : RoomRow) : (s.setStored rr).dead = s.dead := by
  rw [Site.setStored, apply_ite Site.dead]; exact ite_self _

/-- what an accepted room mutation and an accepted import do to an instance -/
def Site.install (s : Site) (rr : RoomRow) (r : Room) : Site := ((s.setStored rr).setMem r).noteInserted rr

theorem getMem_install (s : Site) (rr : RoomRow) (r : Room) (rid : Id) :
    (s.install rr r).getMem rid = if rid = r.id then some r else s.getMem rid := by
  have h := getMem_setMem (s.setStored rr) r rid
  rw [Site.getMem, Site.getMem, setStored_mem] at h
  rw [Site.install, Site.getMem, noteInserted_mem]
  exact h

theorem getStored_install (s : Site) (rr : RoomRow) (r : Room) (rid : Id) :
    (s.install rr r).getStored rid = if rid = rr.rid then some rr else s.getStored rid := by
  rw [Site.install, Site.getStored, noteInserted_stored, setMem_stored]
  exact getStored_setStored s rr rid

theorem install_dead (s : Site) (rr : RoomRow) (r : Room) : (s.install rr r).dead = s.dead := by
  rw [Site.install, noteInserted_dead, setMem_dead, setStored_dead]

structure SiteInv (s : Site) : Prop where
  storedNodup : (s.stored.map (·.rid)).Nodup
  agree : ∀ rid r, s.getMem rid = some r → ∃ rr, s.getStored rid = some rr ∧ AgreesOrd r rr ∧ r.WF
  covered : ∀ rid rr, s.getStored rid = some rr → ∃ r, s.getMem rid = some r

theorem setStored_nodup {s : Site} (h : (s.stored.map (·.rid)).Nodup) (rr : RoomRow) :
    ((s.setStored rr).stored.map (·.rid)).Nodup := by
  rw [Site.setStored]
  by_cases hany : s.stored.any (·.rid = rr.rid) = true
  · rw [if_pos hany]
    exact (map_key_replace RoomRow.rid s.stored rr).symm ▸ h
  · rw [if_neg hany]
    exact nodup_key_append RoomRow.rid h (Bool.eq_false_iff.mpr hany)

theorem getStored_of_mem {s : Site} (hn : (s.stored.map (·.rid)).Nodup) {rr : RoomRow} (h : rr ∈ s.stored) :
    s.getStored rr.rid = some rr :=
  find_of_mem_nodup RoomRow.rid hn h

theorem siteInv_empty : SiteInv Site.empty :=
  ⟨List.nodup_nil, fun _ _ h => (nomatch h), fun _ _ h => (nomatch h)⟩

theorem siteInv_install {s : Site} (hi : SiteInv s) {r : Room} {rr : RoomRow} (ha : AgreesOrd r rr) (hw : r.WF)
    (hid : r.id = rr.rid) : SiteInv (s.install rr r) := by
  refine ⟨?_, ?_, ?_⟩
  · rw [Site.install, noteInserted_stored, setMem_stored]
    exact setStored_nodup hi.storedNodup rr
  · intro rid x hx
    rw [getMem_install] at hx
    rw [getStored_install, ← hid]
    by_cases e : rid = r.id
    · rw [if_pos e] at hx ⊢; cases hx; exact ⟨rr, rfl, ha, hw⟩
    · rw [if_neg e] at hx ⊢; exact hi.agree rid x hx
  · intro rid x hx
    rw [getStored_install, ← hid] at hx
    rw [getMem_install]
    by_cases e : rid = r.id
    · rw [if_pos e]; exact ⟨r, rfl⟩
    · rw [if_neg e] at hx ⊢; exact hi.covered rid x hx

theorem mutate_ok {df : Defects} {s s' : Site} {caller : Key} {n : Nat} {m : MutSpec}
    (h : s.mutate df caller n m = .ok s') :
    s.dead = false ∧ ∃ room, validate df (s.getMem m.rid) caller m = .ok room ∧
      s' = s.install (storeMutation caller n (if m.isNew then none else s.getStored m.rid) m) room := by
  rw [Site.mutate] at h
  obtain ⟨hd, h⟩ := of_ite_ne h nofun
  obtain ⟨_, h⟩ := of_ite_ne h nofun
  split at h
  · cases h
  · rename_i room hv
    cases h
    exact ⟨Bool.eq_false_iff.mpr hd, room, hv, rfl⟩

theorem mutate_alive {df : Defects} {s s' : Site} {caller : Key} {n : Nat} {m : MutSpec}
    (h : s.mutate df caller n m = .ok s') : s'.dead = false := by
  obtain ⟨hd, _, _, rfl⟩ := mutate_ok h
  rw [install_dead, hd]

theorem mutate_agrees {df : Defects} {s : Site} (hi : SiteInv s) {caller : Key} {m : MutSpec} {room : Room}
    (hv : validate df (s.getMem m.rid) caller m = .ok room) (n : Nat) :
    AgreesOrd room (storeMutation caller n (if m.isNew then none else s.getStored m.rid) m) ∧ room.WF ∧
      room.id = m.rid ∧ (storeMutation caller n (if m.isNew then none else s.getStored m.rid) m).rid = m.rid := by
  obtain ⟨room0, _, _, hstart, _⟩ := validate_ok hv
  rcases hstart with ⟨hnew, _⟩ | ⟨hnew, hm, _⟩
  · obtain ⟨ha, hw, hid⟩ := validate_agrees (n := n) (old := none) (by rw [hnew]; rfl) hv
    rw [hnew]
    exact ⟨ha, hw, hid, rfl⟩
  · obtain ⟨rr, hs, ha0, hw0⟩ := hi.agree _ _ hm
    obtain ⟨ha, hw, hid⟩ := validate_agrees (n := n) (old := some rr)
      (by rw [hnew]; exact ⟨room0, rr, hm, rfl, ha0, hw0, (getMem_some hm).trans (getStored_some hs).symm⟩) hv
    have hr : rr.rid = m.rid := getStored_some hs
    rw [hnew, hs]
    exact ⟨ha, hw, hid.trans hr, hr⟩

theorem siteInv_mutate {df : Defects} {s s' : Site} (hi : SiteInv s) {caller : Key} {n : Nat} {m : MutSpec}
    (h : s.mutate df caller n m = .ok s') : SiteInv s' := by
  obtain ⟨_, room, hv, rfl⟩ := mutate_ok h
  obtain ⟨ha, hw, hid, hrid⟩ := mutate_agrees hi hv n
  exact siteInv_install hi ha hw (hid.trans hrid.symm)

theorem prepareNewRoom_ok {c : RoomRow} {room : Room} (h : prepareNewRoom c = .ok room) :
    parseRoom false c = .ok room ∧ newRoomEntitled room c = true := by
  unfold prepareNewRoom at h
  split at h
  · cases h
  · rename_i r hp
    by_cases he : newRoomEntitled r c = true
    · rw [if_pos he] at h; cases h; exact ⟨liftErr_ok hp, he⟩
    · rw [if_neg he] at h; cases h

theorem importRoom_new {df : Defects} {s s' : Site} {cand : RoomRow} (hn : s.getMem cand.rid = none)
    (h : s.importRoom df cand = .ok s') :
    s.dead = false ∧ ∃ room, prepareNewRoom (groupsByUid df.uidOrderReversed cand) = .ok room ∧
      s' = s.install (groupsByUid df.uidOrderReversed cand) room := by
  rw [Site.importRoom] at h
  obtain ⟨hd, h⟩ := of_ite_ne h nofun
  rw [hn] at h
  simp only at h
  split at h
  · cases h
  · rename_i room hp
    cases h
    exact ⟨Bool.eq_false_iff.mpr hd, room, hp, rfl⟩

theorem importRoom_known {df : Defects} {s s' : Site} {cand : RoomRow} {rd : Room}
    (hm : s.getMem cand.rid = some rd) (h : s.importRoom df cand = .ok s') :
    s.dead = false ∧ ∃ old need merged, s.getStored cand.rid = some old ∧
      prepareWithHistory df rd (exportRoom df old) cand = .ok (need, merged) ∧
      ((need = false ∧ s' = s) ∨
       (need = true ∧ ∃ room, parseRoom false (groupsByUid df.uidOrderReversed merged) = .ok room ∧
          s' = s.install (groupsByUid df.uidOrderReversed merged) room)) := by
  rw [Site.importRoom] at h
  obtain ⟨hd, h⟩ := of_ite_ne h nofun
  have hd := Bool.eq_false_iff.mpr hd
  rw [hm] at h
  simp only at h
  split at h
  · cases h
  · rename_i old hs
    split at h
    · cases h
    · rename_i merged hp
      cases h
      exact ⟨hd, old, false, merged, hs, hp, Or.inl ⟨rfl, rfl⟩⟩
    · rename_i merged hp
      split at h
      · cases h
      · rename_i room hparse
        cases h
        exact ⟨hd, old, true, merged, hs, hp, Or.inr ⟨rfl, room, liftErr_ok hparse, rfl⟩⟩

theorem siteInv_import {s s' : Site} (hi : SiteInv s) {df : Defects} {cand : RoomRow}
    (h : s.importRoom df cand = .ok s') : SiteInv s' := by
  cases hm : s.getMem cand.rid with
  | none =>
    obtain ⟨_, room, hp, rfl⟩ := importRoom_new hm h
    obtain ⟨ha, hw, hid⟩ := parseRoom_agreesOrd (prepareNewRoom_ok hp).1
    exact siteInv_install hi ha hw hid
  | some rd =>
    obtain ⟨_, old, need, merged, _, _, ⟨_, rfl⟩ | ⟨_, room, hp, rfl⟩⟩ := importRoom_known hm h
    · exact hi
    · obtain ⟨ha, hw, hid⟩ := parseRoom_agreesOrd hp
      exact siteInv_install hi ha hw hid

theorem importRoom_alive {df : Defects} {s s' : Site} {cand : RoomRow} (h : s.importRoom df cand = .ok s') :
    s'.dead = false := by
  cases hm : s.getMem cand.rid with
  | none =>
    obtain ⟨hd, _, _, rfl⟩ := importRoom_new hm h
    rw [install_dead, hd]
  | some rd =>
    obtain ⟨hd, _, _, _, _, _, ⟨_, rfl⟩ | ⟨_, _, _, rfl⟩⟩ := importRoom_known hm h
    · exact hd
    · rw [install_dead, hd]

theorem export_of_stored {df : Defects} {s : Site} (hd : s.dead = false) {rid : Id} {rr : RoomRow}
    (hs : s.getStored rid = some rr) : s.export df rid = .ok (exportRoom df rr) := by
  rw [Site.export, hd, hs]
  rfl

theorem groupAgrees_sort {a : Auth} {nf : Bool} {t : TieOrder} {g : GroupRow}
    (h : GroupAgrees a (sortGroup nf t g)) : GroupAgrees a g :=
  ⟨h.id, h.users.trans ((readUsers_perm nf t g.users).map _),
   h.userAdmins.trans ((readUsers_perm nf t g.userAdmins).map _),
   h.rights.trans ((readRights_perm nf t g.rights).map _)⟩

theorem agreesOrd_read {r : Room} {rr : RoomRow} {nf : Bool} {t : TieOrder} (h : AgreesOrd r (readRoom nf t rr)) :
    AgreesOrd r rr :=
  ⟨h.admins.trans ((readUsers_perm _ _ rr.admins).map _), h.groups.of_map_right fun _ _ => groupAgrees_sort⟩

theorem agreesOrd_gids_nodup {r : Room} {rr : RoomRow} (ha : AgreesOrd r rr) (hw : r.WF) :
    (rr.groups.map (·.gid)).Nodup := by
  rw [← forall2_ids ha.groups]; exact hw.ids

/-- start-up loads the stored room `rr` as `r`, and `r` is what the invariant asks of the room held for `rr` -/
structure Loads (df : Defects) (seq : List Nat) (r : Room) (rr : RoomRow) : Prop where
  reload : reloadRoom df seq rr = some (.ok r)
  agrees : AgreesOrd r rr
  wf : r.WF
  id : r.id = rr.rid

theorem reloadAll_ok {df : Defects} {seq : List Nat} {l : List RoomRow} (h : ∀ rr ∈ l, ∃ r, Loads df seq r rr) :
    ∃ ms, reloadAll df seq l = .ok ms ∧ Forall2 (Loads df seq) ms l := by
  induction l with
  | nil => exact ⟨[], rfl, Forall2.nil⟩
  | cons rr t ih =>
    obtain ⟨ms, hms, f⟩ := ih (fun x hx => h x (List.mem_cons_of_mem _ hx))
    obtain ⟨r, hr⟩ := h rr (List.mem_cons_self ..)
    refine ⟨r :: ms, ?_, Forall2.cons hr f⟩
    simp only [reloadAll, hr.reload, hms]

theorem find_loaded {df : Defects} {seq : List Nat} {ms : List Room} {l : List RoomRow}
    (f : Forall2 (Loads df seq) ms l) (rid : Id) :
    (∀ r, ms.find? (·.id = rid) = some r → ∃ rr, l.find? (·.rid = rid) = some rr ∧ Loads df seq r rr) ∧
    (∀ rr, l.find? (·.rid = rid) = some rr → ∃ r, ms.find? (·.id = rid) = some r ∧ Loads df seq r rr) := by
  induction f with
  | nil => exact ⟨fun _ h => (nomatch h), fun _ h => (nomatch h)⟩
  | @cons a b l1 l2 hab _ ih =>
    have hid : a.id = b.rid := hab.id
    by_cases h : b.rid = rid
    · rw [find_key_cons_eq Room.id l1 (hid.trans h), find_key_cons_eq RoomRow.rid l2 h]
      exact ⟨fun r hr => ⟨b, rfl, Option.some.inj hr ▸ hab⟩, fun rr hr => ⟨a, rfl, Option.some.inj hr ▸ hab⟩⟩
    · rw [find_key_cons_ne Room.id l1 (hid ▸ h), find_key_cons_ne RoomRow.rid l2 h]
      exact ih

theorem gidsNodup_of_inv {s : Site} (hi : SiteInv s) : ∀ rr ∈ s.stored, (rr.groups.map (·.gid)).Nodup := by
  intro rr hrr
  have hs := getStored_of_mem hi.storedNodup hrr
  obtain ⟨r, hm⟩ := hi.covered _ _ hs
  obtain ⟨rr', hs', ha, hw⟩ := hi.agree _ _ hm
  rw [hs] at hs'; cases hs'
  exact agreesOrd_gids_nodup ha hw

/-- `hl` may take the group ids of a stored room to be distinct: the invariant has it (`gidsNodup_of_inv`) -/
theorem restart_ok {df : Defects} {s : Site} (hi : SiteInv s) (hd : s.dead = false)
    (hl : ∀ rr ∈ s.stored, (rr.groups.map (·.gid)).Nodup → ∃ r, Loads df s.seq r rr) :
    ∃ s', s.restart df = .ok s' ∧ SiteInv s' ∧ s'.dead = false ∧
      ∀ rid r, s.getMem rid = some r → ∃ r' rr, s'.getMem rid = some r' ∧ s.getStored rid = some rr ∧
        (TiesHarmless rr → ∀ d, r.SameAt r' d) := by
  obtain ⟨ms, hms, f⟩ := reloadAll_ok fun rr hrr => hl rr hrr (gidsNodup_of_inv hi rr hrr)
  refine ⟨{ s with mem := ms }, by rw [Site.restart, hd, hms]; rfl, ⟨hi.storedNodup, fun rid r hr => ?_,
    fun rid rr hr => ?_⟩, hd, fun rid r hr => ?_⟩
  · obtain ⟨rr, h2, hp⟩ := (find_loaded f rid).1 r hr
    exact ⟨rr, h2, hp.agrees, hp.wf⟩
  · obtain ⟨r, h1, _⟩ := (find_loaded f rid).2 rr hr
    exact ⟨r, h1⟩
  · obtain ⟨rr, hs, ha, hw⟩ := hi.agree _ _ hr
    obtain ⟨r', h1, hp⟩ := (find_loaded f rid).2 rr hs
    exact ⟨r', rr, h1, hs, fun ht d =>
      sameAt_of_agrees ha.agrees hp.agrees.agrees (.refl rr) hw hp.wf ht d⟩

/-- with ascending replay, normalised rights and every room loaded, every stored room with distinct group
    ids loads -/
theorem loads_none {seq : List Nat} {rr : RoomRow} (hn : (rr.groups.map (·.gid)).Nodup) :
    ∃ r, Loads Defects.none seq r rr := by
  obtain ⟨r, hr⟩ := parseRoom_sorted false (.seq seq) rr hn
  obtain ⟨ha, hw, hid⟩ := parseRoom_agreesOrd hr
  refine ⟨r, ?_, agreesOrd_read ha, hw, hid⟩
  simp only [reloadRoom, Defects.none, Bool.false_and, Bool.false_eq_true, if_false]
  rw [hr]

/-- the rows of one stored room for which the reload behaves whatever the switches are: in every list the
    entries of one key all carry one date (so newest-first replay passes the append-only check), every right
    with `mutate_all` has `mutate_self` (so the missing normalisation changes nothing), and the room has at
    least one admin entry and one group (so it is loaded at all) -/
structure ReloadGuard (rr : RoomRow) : Prop where
  adminsOne : ∀ a ∈ rr.admins, ∀ b ∈ rr.admins, a.key = b.key → a.date = b.date
  usersOne : ∀ g ∈ rr.groups, ∀ a ∈ g.users, ∀ b ∈ g.users, a.key = b.key → a.date = b.date
  userAdminsOne : ∀ g ∈ rr.groups, ∀ a ∈ g.userAdmins, ∀ b ∈ g.userAdmins, a.key = b.key → a.date = b.date
  rightsOne : ∀ g ∈ rr.groups, ∀ a ∈ g.rights, ∀ b ∈ g.rights, a.entity = b.entity → a.date = b.date
  rightsNormal : ∀ g ∈ rr.groups, ∀ a ∈ g.rights, a.mutAll = true → a.mutSelf = true
  hasAdmin : rr.admins ≠ []
  hasGroup : rr.groups ≠ []

theorem loads_guarded {df : Defects} {seq : List Nat} {rr : RoomRow} (hn : (rr.groups.map (·.gid)).Nodup)
    (hg : ReloadGuard rr) : ∃ r, Loads df seq r rr := by
  have hu : ∀ l a, a ∈ readUsers df.newestFirstReplay (.seq seq) l → a ∈ l := fun l _ => (readUsers_perm _ _ l).mem_iff.mp
  have hx : ∀ l a, a ∈ readRights df.newestFirstReplay (.seq seq) l → a ∈ l := fun l _ => (readRights_perm _ _ l).mem_iff.mp
  -- one date per key: whatever order the rows are read in, the replay passes the append-only check
  obtain ⟨r, hr⟩ : ∃ r, parseRoom df.reloadRawRights (readRoom df.newestFirstReplay (.seq seq) rr) = .ok r := by
    refine parseRoom_of_wf ((readRoom_gids ..).symm ▸ hn)
      (userWF_of_one fun a ha b hb => hg.adminsOne a (hu _ _ ha) b (hu _ _ hb)) fun g hgm => ?_
    obtain ⟨g0, hg0, rfl⟩ := List.mem_map.mp hgm
    exact ⟨rightWF_of_one fun a ha b hb => hg.rightsOne g0 hg0 a (hx _ _ ha) b (hx _ _ hb),
      userWF_of_one fun a ha b hb => hg.usersOne g0 hg0 a (hu _ _ ha) b (hu _ _ hb),
      userWF_of_one fun a ha b hb => hg.userAdminsOne g0 hg0 a (hu _ _ ha) b (hu _ _ hb)⟩
  obtain ⟨hid, hadm, f, hw⟩ := parseRoom_ok hr
  refine ⟨r, ?_, agreesOrd_read ⟨hadm ▸ .refl _, f.imp_mem fun a g hgm hp => ?_⟩, hw, hid⟩
  · rw [reloadRoom, List.isEmpty_eq_false_iff.mpr hg.hasAdmin, List.isEmpty_eq_false_iff.mpr hg.hasGroup,
      Bool.or_self, Bool.and_false, if_neg Bool.false_ne_true, hr]
  · -- the rights are normal already: reading them raw changes nothing
    obtain ⟨g0, hg0, rfl⟩ := List.mem_map.mp hgm
    exact hp.agrees_of_normal fun x hxm => hg.rightsNormal g0 hg0 x (hx _ _ hxm)

theorem ok_of_toBool {ε α : Type} {x : Except ε α} (h : x.toBool = true) : ∃ a, x = .ok a := by
  cases x with
  | ok a => exact ⟨a, rfl⟩
  | error e => cases h

/-- names the value of a computation that succeeds: the witnesses of `Props/C10.lean` define `siteN` as this `match`
    with `Site.empty` for `d`, so that `x = .ok siteN` follows from evaluating `x.toBool` -/
theorem ok_eq_of_toBool {ε α : Type} {x : Except ε α} (d : α) (h : x.toBool = true) :
    x = .ok (match x with | .ok a => a | .error _ => d) := by
  cases x with
  | ok a => rfl
  | error e => cases h

end Discret.RoomBuild
