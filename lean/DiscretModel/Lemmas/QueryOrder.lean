import DiscretModel.Lemmas.Query
import DiscretModel.Lemmas.Basic
/-
Insertion sort (`sortBy`): the result is a permutation of the input, sorted when the order is total and transitive,
and sorting commutes with maps and filters. The order of key tuples is a strict weak order, so `tupleLe` is total and transitive and the
result of a query is sorted; hence, if the key tuples of the selected rows are pairwise different, they are
strictly increasing in result order — the hypothesis of the paging theorem.
-/
namespace Discret.Query

theorem insertBy_eq_ordInsert : @insertBy = @ordInsert := by
  funext α le x l
  induction l with
  | nil => rfl
  | cons y t ih => rw [insertBy, ordInsert, ih]

theorem sortBy_eq_insertionSort : @sortBy = @insertionSort := by
  funext α le l
  rw [sortBy, insertionSort, insertBy_eq_ordInsert]

theorem sortBy_cons {α : Type} (le : α → α → Bool) (a : α) (t : List α) :
    sortBy le (a :: t) = insertBy le a (sortBy le t) := rfl

theorem sortBy_perm {α : Type} (le : α → α → Bool) (l : List α) : (sortBy le l).Perm l :=
  sortBy_eq_insertionSort ▸ insertionSort_perm le l

theorem mem_sortBy {α : Type} (le : α → α → Bool) (y : α) (l : List α) : y ∈ sortBy le l ↔ y ∈ l :=
  (sortBy_perm le l).mem_iff

theorem pairwise_sortBy {α : Type} (le : α → α → Bool)
    (htot : ∀ a b, le a b = false → le b a = true)
    (htr : ∀ a b c, le a b = true → le b c = true → le a c = true)
    (l : List α) : (sortBy le l).Pairwise fun a b => le a b = true :=
  sortBy_eq_insertionSort ▸ insertionSort_sorted le htot htr l

theorem insertBy_map {α β : Type} (f : α → β) (le : α → α → Bool) (le' : β → β → Bool) (x : α) (l : List α)
    (h : ∀ y ∈ l, le' (f x) (f y) = le x y) :
    insertBy le' (f x) (l.map f) = (insertBy le x l).map f := by
  induction l with
  | nil => rfl
  | cons y t ih =>
    simp only [List.map_cons, insertBy, h y (by simp)]
    split
    · rfl
    · rw [List.map_cons, ih (fun z hz => h z (by simp [hz]))]

theorem sortBy_map {α β : Type} (f : α → β) (le : α → α → Bool) (le' : β → β → Bool) (l : List α)
    (h : ∀ x ∈ l, ∀ y ∈ l, le' (f x) (f y) = le x y) :
    sortBy le' (l.map f) = (sortBy le l).map f := by
  induction l with
  | nil => rfl
  | cons a t ih =>
    rw [List.map_cons, sortBy_cons, sortBy_cons, ih (fun x hx y hy => h x (by simp [hx]) y (by simp [hy]))]
    apply insertBy_map
    intro y hy
    exact h a (by simp) y (by simp [(mem_sortBy le y t).mp hy])

theorem insertBy_of_le_all {α : Type} (le : α → α → Bool) (x : α) (l : List α) (h : ∀ y ∈ l, le x y = true) :
    insertBy le x l = x :: l := by
  cases l with
  | nil => rfl
  | cons y t => simp [insertBy, h y (by simp)]

theorem filter_insertBy {α : Type} (le : α → α → Bool)
    (htr : ∀ a b c, le a b = true → le b c = true → le a c = true) (p : α → Bool) (x : α) (l : List α)
    (hl : l.Pairwise fun a b => le a b = true) :
    (insertBy le x l).filter p = if p x then insertBy le x (l.filter p) else l.filter p := by
  induction l with
  | nil => cases hp : p x <;> simp [insertBy, hp]
  | cons y t ih =>
    rw [List.pairwise_cons] at hl
    obtain ⟨hy, ht⟩ := hl
    simp only [insertBy]
    cases hxy : le x y with
    | true =>
      simp only [if_true]
      have hall : ∀ z ∈ (y :: t).filter p, le x z = true := by
        intro z hz
        have hz' := (List.mem_filter.mp hz).1
        rcases List.mem_cons.mp hz' with hz' | hz'
        · rw [hz']; exact hxy
        · exact htr x y z hxy (hy z hz')
      cases hp : p x with
      | true =>
        rw [if_pos rfl, insertBy_of_le_all le x _ hall, List.filter_cons (x := x), if_pos hp]
      | false =>
        rw [if_neg (by simp), List.filter_cons (x := x), if_neg (by simp [hp])]
    | false =>
      simp only [Bool.false_eq_true, if_false]
      cases hpy : p y with
      | true =>
        simp only [List.filter_cons, hpy, if_true, ih ht]
        cases hp : p x with
        | true => simp [insertBy, hxy]
        | false => simp
      | false =>
        simp only [List.filter_cons, hpy, Bool.false_eq_true, if_false, ih ht]

theorem filter_sortBy {α : Type} (le : α → α → Bool)
    (htot : ∀ a b, le a b = false → le b a = true)
    (htr : ∀ a b c, le a b = true → le b c = true → le a c = true) (p : α → Bool) (l : List α) :
    (sortBy le l).filter p = sortBy le (l.filter p) := by
  induction l with
  | nil => rfl
  | cons a t ih =>
    rw [sortBy_cons, filter_insertBy le htr p a _ (pairwise_sortBy le htot htr t), ih]
    cases hp : p a with
    | true => simp [hp, sortBy_cons]
    | false => simp [hp]

def dirLt (o : Order) (x y : Val) : Bool := if o.desc then y.lt x else x.lt y

theorem dirLt_asymm (o : Order) (x y : Val) (h : dirLt o x y = true) : dirLt o y x = false := by
  unfold dirLt at *
  cases hd : o.desc
  · simp only [hd, Bool.false_eq_true, if_false] at h ⊢; exact Val.lt_asymm _ _ h
  · simp only [hd, if_true] at h ⊢; exact Val.lt_asymm _ _ h

theorem dirLt_negtrans (o : Order) (c a b : Val) (h : dirLt o c a = true) :
    dirLt o c b = true ∨ dirLt o b a = true := by
  unfold dirLt at *
  cases hd : o.desc
  · simp only [hd, Bool.false_eq_true, if_false] at h ⊢
    exact Val.lt_negtrans c a b h
  · simp only [hd, if_true] at h ⊢
    rcases Val.lt_negtrans a c b h with h1 | h1
    · exact Or.inr h1
    · exact Or.inl h1

theorem same_iff_dir (o : Order) (x y : Val) :
    x.same y = true ↔ dirLt o x y = false ∧ dirLt o y x = false := by
  unfold Val.same dirLt
  cases o.desc <;> simp [and_comm]

theorem dirLt_congr (o : Order) {a c : Val} (h : a.same c = true) (b : Val) :
    dirLt o a b = dirLt o c b ∧ dirLt o b a = dirLt o b c := by
  obtain ⟨e1, e2⟩ := Val.lt_congr h b
  unfold dirLt
  cases o.desc <;> simp [e1, e2]

theorem tupleLt_cons (o : Order) (os : List Order) (x y : Val) (xs ys : List Val) :
    tupleLt (o :: os) (x :: xs) (y :: ys) = (dirLt o x y || (x.same y && tupleLt os xs ys)) := by
  simp [tupleLt, dirLt]

theorem tupleLt_asymm (os : List Order) : ∀ a b : List Val, tupleLt os a b = true → tupleLt os b a = false := by
  induction os with
  | nil => intro a b h; simp [tupleLt] at h
  | cons o os ih =>
    intro a b h
    cases a with
    | nil => simp [tupleLt] at h
    | cons x xs =>
      cases b with
      | nil => simp [tupleLt] at h
      | cons y ys =>
        rw [tupleLt_cons] at h ⊢
        simp only [Bool.or_eq_true, Bool.and_eq_true] at h
        simp only [Bool.or_eq_false_iff, Bool.and_eq_false_iff]
        rcases h with h | ⟨h1, h2⟩
        · refine ⟨dirLt_asymm o x y h, Or.inl ?_⟩
          rw [Bool.eq_false_iff, Ne, same_iff_dir o, h]
          simp
        · exact ⟨((same_iff_dir o x y).mp h1).2, Or.inr (ih xs ys h2)⟩

/-- Only the middle tuple needs a key for every order: a shorter one is incomparable with both ends. -/
theorem tupleLt_negtrans (os : List Order) : ∀ c a b : List Val, b.length = os.length →
    tupleLt os c a = true → tupleLt os c b = true ∨ tupleLt os b a = true := by
  induction os with
  | nil => intro c a b _ h; simp [tupleLt] at h
  | cons o os ih =>
    intro c a b hb h
    cases c with
    | nil => simp [tupleLt] at h
    | cons c0 cs =>
    cases a with
    | nil => simp [tupleLt] at h
    | cons a0 as =>
    cases b with
    | nil => simp at hb
    | cons b0 bs =>
      simp only [List.length_cons, Nat.add_right_cancel_iff] at hb
      rw [tupleLt_cons] at h
      rw [tupleLt_cons, tupleLt_cons]
      simp only [Bool.or_eq_true, Bool.and_eq_true] at h ⊢
      rcases h with h | ⟨h1, h2⟩
      · rcases dirLt_negtrans o c0 a0 b0 h with h3 | h3
        · exact Or.inl (Or.inl h3)
        · exact Or.inr (Or.inl h3)
      · -- `a0` ties with `c0`, so `b0` stands to `a0` as it stands to `c0`
        obtain ⟨e1, e2⟩ := dirLt_congr o h1 b0
        have e3 : b0.same a0 = c0.same b0 := by
          rw [Bool.eq_iff_iff, same_iff_dir o, same_iff_dir o, ← e1, ← e2, and_comm]
        rw [← e2, e3]
        cases hcb : dirLt o c0 b0 with
        | true => exact Or.inl (Or.inl rfl)
        | false =>
          cases hbc : dirLt o b0 c0 with
          | true => exact Or.inr (Or.inl rfl)
          | false =>
            have hs : c0.same b0 = true := (same_iff_dir o c0 b0).mpr ⟨hcb, hbc⟩
            rcases ih cs as bs hb h2 with h3 | h3
            · exact Or.inl (Or.inr ⟨hs, h3⟩)
            · exact Or.inr (Or.inr ⟨hs, h3⟩)

theorem tupleLe_total (os : List Order) (ka kb : List Val) (h : tupleLe os ka kb = false) : tupleLe os kb ka = true := by
  simp only [tupleLe, Bool.not_eq_eq_eq_not, Bool.not_false] at h
  simp only [tupleLe, Bool.not_eq_eq_eq_not, Bool.not_true]
  exact tupleLt_asymm _ _ _ h

/-- only the middle tuple needs a key for every order (`tupleLt_negtrans`) -/
theorem tupleLe_trans (os : List Order) (ka kb kc : List Val) (hb : kb.length = os.length)
    (h1 : tupleLe os ka kb = true) (h2 : tupleLe os kb kc = true) : tupleLe os ka kc = true := by
  simp only [tupleLe, Bool.not_eq_eq_eq_not, Bool.not_true] at h1 h2 ⊢
  cases h : tupleLt os kc ka with
  | false => rfl
  | true =>
    rcases tupleLt_negtrans os _ _ kb hb h with h3 | h3
    · rw [h2] at h3; exact absurd h3 (by simp)
    · rw [h1] at h3; exact absurd h3 (by simp)

/-- the comparator `evalRows` sorts with is total and transitive: what `pairwise_sortBy` and `filter_sortBy` ask -/
theorem keysLe_total (d : Defects) (s : Schema) (ent : Nat) (os : List Order) (a b : Row)
    (h : tupleLe os (keysOf d s ent os a) (keysOf d s ent os b) = false) :
    tupleLe os (keysOf d s ent os b) (keysOf d s ent os a) = true :=
  tupleLe_total _ _ _ h

theorem keysLe_trans (d : Defects) (s : Schema) (ent : Nat) (os : List Order) (a b c : Row)
    (h1 : tupleLe os (keysOf d s ent os a) (keysOf d s ent os b) = true)
    (h2 : tupleLe os (keysOf d s ent os b) (keysOf d s ent os c) = true) :
    tupleLe os (keysOf d s ent os a) (keysOf d s ent os c) = true :=
  tupleLe_trans _ _ _ _ (keysOf_length ..) h1 h2

theorem rows_sorted (d : Defects) (s : Schema) (data : Data) (fuel : Nat) (key : String) (q : Query)
    (cands : List Row) :
    (evalRows d s data (fuel + 1) key (fullQuery q) cands false).Pairwise fun a b =>
      tupleLe q.orders (keysOf d s q.ent q.orders a) (keysOf d s q.ent q.orders b) = true := by
  rw [evalRows_fullQuery]
  apply pairwise_sortBy
  · exact keysLe_total d s q.ent q.orders
  · exact keysLe_trans d s q.ent q.orders

/-- the two tuples tie: neither comes strictly before the other under `tupleLt` -/
def tupleSame (os : List Order) (a b : List Val) : Bool := !tupleLt os a b && !tupleLt os b a

theorem rows_strict_of_distinct (d : Defects) (s : Schema) (data : Data) (fuel : Nat) (key : String) (q : Query)
    (cands : List Row)
    (hdistinct : (evalRows d s data (fuel + 1) key (fullQuery q) cands false).Pairwise fun a b =>
      tupleSame q.orders (keysOf d s q.ent q.orders a) (keysOf d s q.ent q.orders b) = false) :
    (evalRows d s data (fuel + 1) key (fullQuery q) cands false).Pairwise fun a b =>
      tupleLt q.orders (keysOf d s q.ent q.orders a) (keysOf d s q.ent q.orders b) = true := by
  have hs := rows_sorted d s data fuel key q cands
  have := List.Pairwise.and hs hdistinct
  apply List.Pairwise.imp _ this
  intro a b ⟨h1, h2⟩
  simp only [tupleLe, Bool.not_eq_eq_eq_not, Bool.not_true] at h1
  simp only [tupleSame, h1, Bool.not_false, Bool.and_true, Bool.not_eq_eq_eq_not, Bool.not_false] at h2
  exact h2

end Discret.Query
