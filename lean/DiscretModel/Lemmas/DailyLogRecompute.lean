import DiscretModel.Lemmas.DailyLog
/-
The recomputation with the repairs in (the four switches of `Defects.LogRepaired` off) against the specification rows:
in a table satisfying the invariant every group is rewritten to the specification up to its first pending day
(`recomputeGroup_chain`); with nothing pending the table becomes the specification of the stored content.
-/
namespace Discret.DailyLog

/-- the log computed from scratch -/
structure IsLogOf (sigs : Content) (log : Log) : Prop where
  groups : GroupsSorted log
  nonemptyGroups : ∀ g ∈ log, g.rows ≠ []
  rows : ∀ g ∈ log, RowsSorted g.rows ∧ (∀ r ∈ g.rows, sigs g.room g.ent r.day ≠ []) ∧
    g.rows = specRows sigs g.room g.ent (g.rows.map (·.day))
  covers : ∀ room ent day, sigs room ent day ≠ [] →
    ∃ g ∈ log, g.room = room ∧ g.ent = ent ∧ ∃ r ∈ g.rows, r.day = day

def noPending : Pending := fun _ _ _ => False

theorem sameForMarked_eq {d : Defects} (h2 : d.entityNotCompared = false) (c : Cursor) (room ent : Nat) :
    sameForMarked d c room ent = sameGroup c room ent := by
  unfold sameForMarked sameGroup
  cases c.grp with
  | none => rfl
  | some x => obtain ⟨a, b⟩ := x; simp [h2]

section step
variable {d : Defects} (h1 : d.historySeedDropped = false) (h2 : d.entityNotCompared = false)
  (h3 : d.emptyDayRow = false) {sigs : Content} {room ent : Nat} {c : Cursor} {r : DayRow}

def histOf (c : Cursor) (room ent : Nat) (daily : Option Hash) : Option Hash :=
  if sameGroup c room ent then
    match c.hist with
    | some h => some (chainHash h c.daily)
    | none => daily
  else daily

include h3 in
theorem stepRow_clean_in (hd : r.dirty = false) (hg : c.grp = some (room, ent)) :
    stepRow d sigs room ent c r =
      ({ grp := some (room, ent), daily := r.daily, hist := histOf c room ent r.daily },
        some { r with hist := histOf c room ent r.daily }) := by
  have hsg := (sameGroup_true_iff c room ent).mpr hg
  unfold stepRow histOf
  rw [if_pos (by rw [hd]; rfl), if_pos hsg, if_pos hsg]
  cases c.hist with
  | some h => rfl
  | none => dsimp only; rw [h3]; rfl

/-- the cursor after the seed row of a group (the last unmarked row before the first marked one) -/
def seedCursor (c : Cursor) (room ent : Nat) : Option DayRow → Cursor
  | some s => { grp := some (room, ent), daily := s.daily, hist := s.hist }
  | none => c

include h1 in
theorem stepRow_seed (hd : r.dirty = false) (hg : sameGroup c room ent = false) :
    stepRow d sigs room ent c r = (seedCursor c room ent (some r), some r) := by
  simp only [stepRow, hd, Bool.not_false, ↓reduceIte, hg, Bool.false_eq_true, h1, seedCursor]

include h3 in
theorem stepRow_dirty_empty (hd : r.dirty = true) (he : sigs room ent r.day = []) :
    stepRow d sigs room ent c r = (if sameGroup c room ent then c else Cursor.start room ent, none) := by
  simp [stepRow, hd, he, h3]

include h2 h3 in
theorem stepRow_dirty (hd : r.dirty = true) (hne : sigs room ent r.day ≠ []) :
    stepRow d sigs room ent c r =
      ({ grp := some (room, ent), daily := dailyOf (sigs room ent r.day),
         hist := histOf c room ent (dailyOf (sigs room ent r.day)) },
        some { day := r.day, count := (sigs room ent r.day).length, daily := dailyOf (sigs room ent r.day),
               hist := histOf c room ent (dailyOf (sigs room ent r.day)), dirty := false }) := by
  have hne' : (sigs room ent r.day).isEmpty = false := by
    cases hs : sigs room ent r.day with
    | nil => exact absurd hs hne
    | cons a t => rfl
  simp only [stepRow, hd, Bool.not_true, Bool.false_eq_true, ↓reduceIte, hne', h3, sameForMarked_eq h2, histOf,
    Bool.and_true, Bool.not_false]
  rfl

/-- how the loop cursor encodes "the last row of this group kept so far": `none` = no row of the group precedes
    (the cursor is still in another group, or it is in the group without a history) -/
def CurIs (c : Cursor) (room ent : Nat) : Option (Hash × Option Hash) → Prop
  | none => sameGroup c room ent = false ∨ (c.grp = some (room, ent) ∧ c.hist = none)
  | some (h, dl) => c.grp = some (room, ent) ∧ c.hist = some h ∧ c.daily = dl

theorem histOf_eq {prev : Option (Hash × Option Hash)} (hc : CurIs c room ent prev) (daily : Option Hash) :
    histOf c room ent daily = nextHist prev daily := by
  unfold histOf
  cases prev with
  | none =>
    rcases hc with hc | hc
    · rw [hc]; rfl
    · rw [(sameGroup_true_iff _ _ _).mpr hc.1, hc.2]; rfl
  | some p =>
    obtain ⟨g1, g2, g3⟩ := hc
    rw [(sameGroup_true_iff _ _ _).mpr g1, g2, g3]; rfl

theorem CurIs_mk (room ent : Nat) (daily hist : Option Hash) :
    CurIs { grp := some (room, ent), daily := daily, hist := hist } room ent (hist.map fun h => (h, daily)) := by
  cases hist with
  | none => exact Or.inr ⟨rfl, rfl⟩
  | some y => exact ⟨rfl, rfl, rfl⟩

include h2 h3 in
/-- one iteration against the specification: a row that is written back is the specification row of its day chained to
    `prev`, a row that is dropped leaves the chain where it was. An unmarked row is trusted only if what it stores is
    right and the cursor is already in the group (it is not a seed row). -/
theorem stepRow_spec {prev : Option (Hash × Option Hash)} (hc : CurIs c room ent prev) :
    (∀ r', (stepRow d sigs room ent c r).2 = some r' →
      (r.dirty = false → RowRight sigs room ent r ∧ c.grp = some (room, ent)) →
      r' = specRow sigs room ent prev r.day ∧ CurIs (stepRow d sigs room ent c r).1 room ent r'.state) ∧
    ((stepRow d sigs room ent c r).2 = none → CurIs (stepRow d sigs room ent c r).1 room ent prev) := by
  cases hd : r.dirty with
  | false =>
    refine ⟨fun r' ho hr => ?_, fun ho => ?_⟩
    · obtain ⟨⟨_, hcnt, hdl⟩, hcg⟩ := hr rfl
      rw [stepRow_clean_in h3 hd hcg, histOf_eq hc] at ho ⊢
      cases ho
      refine ⟨?_, CurIs_mk room ent _ _⟩
      rw [specRow, ← hcnt, ← hdl, ← hd]
    · rw [((stepRow_none_iff d sigs room ent c).mp ho).1] at hd; cases hd
  | true =>
    by_cases he : sigs room ent r.day = []
    · rw [stepRow_dirty_empty h3 hd he]
      refine ⟨fun r' ho => (nomatch ho), fun _ => ?_⟩
      cases hsg : sameGroup c room ent with
      | true => exact hc
      | false =>
        cases prev with
        | none => exact Or.inr ⟨rfl, rfl⟩
        | some p => rw [(sameGroup_true_iff _ _ _).mpr hc.1] at hsg; cases hsg
    · rw [stepRow_dirty h2 h3 hd he, histOf_eq hc]
      refine ⟨fun r' ho _ => ?_, fun ho => (nomatch ho)⟩
      cases ho
      exact ⟨rfl, CurIs_mk room ent _ _⟩

end step

section walk
variable {d : Defects} (h2 : d.entityNotCompared = false)
  (h3 : d.emptyDayRow = false) {sigs : Content} {P : Pending} {room ent : Nat}

include h2 h3 in
/-- the walk against the specification, while marks may be pending: every prefix of what it writes back that stops
    before the first pending day is the specification over its own days, chained to `prev`. Unmarked rows are trusted
    on days that are not pending. `hfirst`: the cursor is in the group already (a seed row was read), or the first row
    is a marked one. -/
theorem walkRows_spec (l : List DayRow) (c : Cursor) (prev : Option (Hash × Option Hash))
    (hc : CurIs c room ent prev)
    (hr : ∀ r ∈ l, r.dirty = false → ¬ P room ent r.day → RowRight sigs room ent r)
    (hfirst : c.grp = some (room, ent) ∨ ∀ r, l.head? = some r → r.dirty = true)
    (pre post : List DayRow) (he : (walkRows d sigs room ent c l).2 = pre ++ post)
    (hp : ∀ r ∈ pre, ¬ P room ent r.day) :
    pre = specRowsFrom sigs room ent prev (pre.map (·.day)) := by
  induction l generalizing c prev pre with
  | nil => rw [(List.append_eq_nil_iff.mp he.symm).1]; rfl
  | cons r t ih =>
    obtain ⟨s1, s2⟩ := stepRow_spec h2 h3 (d := d) (r := r) hc
    have hrt : ∀ x ∈ t, x.dirty = false → ¬ P room ent x.day → RowRight sigs room ent x :=
      fun x hx => hr x (List.mem_cons_of_mem _ hx)
    have hg := stepRow_grp d sigs room ent c r
    rw [walkRows_cons] at he
    cases ho : (stepRow d sigs room ent c r).2 with
    | none =>
      rw [ho] at he
      exact ih _ prev (s2 ho) hrt (Or.inl hg) pre he hp
    | some r' =>
      rw [ho, Option.toList_some, List.singleton_append] at he
      cases pre with
      | nil => rfl
      | cons x pre' =>
        injection he with e1 e2
        subst e1
        have hday : r'.day = r.day := (stepRow_some d sigs room ent c ho).2.1
        obtain ⟨e, hc'⟩ := s1 r' ho fun hd =>
          ⟨hr r List.mem_cons_self hd (hday ▸ hp r' List.mem_cons_self),
           hfirst.elim id fun h => by have := h r rfl; rw [hd] at this; cases this⟩
        rw [List.map_cons, specRowsFrom_cons, hday, ← e,
          ← ih _ _ hc' hrt (Or.inl hg) pre' e2 fun x hx => hp x (List.mem_cons_of_mem _ hx)]

end walk

structure GroupDone (sigs : Content) (g g' : Group) : Prop where
  room : g'.room = g.room
  ent : g'.ent = g.ent
  spec : g'.rows = specRows sigs g.room g.ent (g'.rows.map (·.day))
  sorted : RowsSorted g'.rows
  nonempty : ∀ r ∈ g'.rows, sigs g.room g.ent r.day ≠ []
  keeps : ∀ r ∈ g.rows, sigs g.room g.ent r.day ≠ [] → ∃ r' ∈ g'.rows, r'.day = r.day

/-- the rows of a group entered by a cursor that comes from another group: reading the seed row (if there is one)
    loads its stored hashes and leaves the row as it is, so the unmarked rows stay and the walk proper starts at the
    first marked row (there may be none) -/
theorem recomputeGroup_rows_entering {d : Defects} {sigs : Content} {c : Cursor} {g : Group}
    (h1 : d.historySeedDropped = false) (h4 : d.lazyScan = false) (hc : sameGroup c g.room g.ent = false) :
    (recomputeGroup d sigs c g).2.rows = cleanPrefix g.rows ++
      (walkRows d sigs g.room g.ent (seedCursor c g.room g.ent (cleanPrefix g.rows).getLast?)
        (fromFirstDirty g.rows)).2 := by
  cases hre : (fromFirstDirty g.rows).isEmpty with
  | true =>
    have hrows := cleanPrefix_append_fromFirstDirty g.rows
    rw [List.isEmpty_iff.mp hre] at hrows ⊢
    rw [recomputeGroup_clean hre]; exact hrows.symm
  | false =>
    rw [recomputeGroup_window h4 hre]
    cases hl : (cleanPrefix g.rows).getLast? with
    | none => rw [List.getLast?_eq_none_iff.mp hl]; rfl
    | some s =>
      have hdl := dropLast_append_getLast? (cleanPrefix g.rows)
      rw [hl, Option.toList_some] at hdl
      rw [Option.toList_some, List.singleton_append, walkRows_cons,
        stepRow_seed h1 (mem_cleanPrefix_clean (List.mem_of_getLast? hl)) hc, Option.toList_some, ← List.append_assoc, hdl]

theorem recomputeGroup_right {d : Defects} (h3 : d.emptyDayRow = false) (h4 : d.lazyScan = false) {sigs : Content}
    {P : Pending} {g : Group} (c : Cursor)
    (hg : ∀ r ∈ g.rows, r.dirty = false → ¬ P g.room g.ent r.day → RowRight sigs g.room g.ent r) :
    ∀ r' ∈ (recomputeGroup d sigs c g).2.rows, ¬ P g.room g.ent r'.day → RowRight sigs g.room g.ent r' := by
  intro r' hr' hnp
  obtain ⟨r, hr, ⟨e, hd⟩ | ⟨c', e⟩⟩ := (recomputeGroup_rows h4 sigs c g).origin r' hr'
  · rw [e] at hnp ⊢; exact hg r hr hd hnp
  · obtain ⟨_, hday, ⟨hd, e1, e2⟩ | ⟨hd, e1, e2⟩⟩ := stepRow_some d sigs g.room g.ent c' e
    · have := hg r hr hd (hday ▸ hnp)
      unfold RowRight at this ⊢
      rw [hday, e1, e2]; exact this
    · refine ⟨fun hne => ?_, hday ▸ e1, hday ▸ e2⟩
      -- the iteration would have dropped a marked row whose day is empty
      have := (stepRow_none_iff d sigs g.room g.ent c').mpr ⟨hd, hday ▸ hne, h3⟩
      rw [e] at this; cases this

section group
variable {d : Defects} (hd : d.LogRepaired)

include hd in
/-- the chain of a recomputed group, while marks may be pending: every prefix of its rows that stops before the first
    pending day is the specification over its own days. Such a prefix either ends inside the unmarked rows the loop
    leaves alone, where the invariant of the input says so, or consists of all of them and a prefix of the walk. -/
theorem recomputeGroup_chain {sigs : Content} {P : Pending} {g : Group} {c : Cursor} (hg : GInv sigs P g)
    (hc : sameGroup c g.room g.ent = false) (pre post : List DayRow)
    (he : (recomputeGroup d sigs c g).2.rows = pre ++ post)
    (hp : ∀ r ∈ pre, ∀ day, day ≤ r.day → ¬ P g.room g.ent day) :
    pre = specRows sigs g.room g.ent (pre.map (·.day)) := by
  have hrows := (cleanPrefix_append_fromFirstDirty g.rows).symm
  rw [recomputeGroup_rows_entering hd.seed hd.window hc] at he
  rcases List.append_eq_append_iff.mp he with ⟨w, e1, e2⟩ | ⟨u, e1, _⟩
  · have hpre : cleanPrefix g.rows = specRows sigs g.room g.ent ((cleanPrefix g.rows).map (·.day)) :=
      hg.chain _ _ hrows fun r hr => ⟨mem_cleanPrefix_clean hr, hp r (e1 ▸ List.mem_append_left _ hr)⟩
    have hcur : CurIs (seedCursor c g.room g.ent (cleanPrefix g.rows).getLast?) g.room g.ent
          (stateOf none (cleanPrefix g.rows)) ∧
        ((seedCursor c g.room g.ent (cleanPrefix g.rows).getLast?).grp = some (g.room, g.ent) ∨
          ∀ r, (fromFirstDirty g.rows).head? = some r → r.dirty = true) := by
      unfold stateOf
      cases (cleanPrefix g.rows).getLast? with
      | none =>
        refine ⟨Or.inl hc, Or.inr fun r hr => ?_⟩
        obtain ⟨t, ht⟩ := List.head?_eq_some_iff.mp hr
        exact fromFirstDirty_head ht
      | some s => exact ⟨CurIs_mk g.room g.ent s.daily s.hist, Or.inl rfl⟩
    have w1 := walkRows_spec hd.entity hd.emptied (d := d) (fromFirstDirty g.rows) _ _ hcur.1
      (fun r hr => hg.right r (by rw [hrows]; exact List.mem_append_right _ hr)) hcur.2 w post e2
      fun r hr => hp r (e1 ▸ List.mem_append_right _ hr) r.day (Nat.le_refl _)
    rw [e1, List.map_append, specRows, specRowsFrom_append, ← specRows, ← hpre, ← w1]
  · exact hg.chain pre (u ++ fromFirstDirty g.rows) (hrows.trans (by rw [e1, List.append_assoc]))
      fun r hr => ⟨mem_cleanPrefix_clean (e1 ▸ List.mem_append_left _ hr), hp r hr⟩

include hd in
theorem recomputeGroup_done {sigs : Content} {g : Group} {c : Cursor} (hg : GInv sigs noPending g)
    (hc : sameGroup c g.room g.ent = false) : GroupDone sigs g (recomputeGroup d sigs c g).2 := by
  refine ⟨(recomputeGroup_key sigs c g).1, (recomputeGroup_key sigs c g).2,
    recomputeGroup_chain hd hg hc _ [] (List.append_nil _).symm fun _ _ _ _ h => h,
    recomputeGroup_sorted hd.window sigs c hg.sorted,
    fun r' hr' => (recomputeGroup_right hd.emptied hd.window c hg.right r' hr' id).1, fun r hr hne => ?_⟩
  obtain ⟨r', hr', q⟩ := recomputeGroup_keeps hd.window sigs c g hr (Or.inr (Or.inr hne))
  exact ⟨r', hr', q.2.1⟩

include hd in
/-- **the recomputation barrier**: with nothing pending, the recomputed table is the specification -/
theorem recompute_isLogOf {sigs : Content} {log : Log} (h : WInv sigs noPending log) :
    IsLogOf sigs (recompute d sigs log) := by
  obtain ⟨a, b⟩ := recompute_groups (d := d) hd.window sigs h.groups
  refine ⟨b, fun g' hg' => (a g' hg').1, ?_, fun room ent day hne => (h.covers_recompute hd.window room ent day hne).resolve_left id⟩
  intro g' hg'
  obtain ⟨_, c', g, hc, hg, e⟩ := a g' hg'
  have hdone := recomputeGroup_done hd (h.ginv g hg) hc
  rw [← e] at hdone
  refine ⟨hdone.sorted, ?_, ?_⟩
  · intro r hr; rw [hdone.room, hdone.ent]; exact hdone.nonempty r hr
  · rw [hdone.room, hdone.ent]; exact hdone.spec

end group

theorem IsLogOf.rowRight {sigs : Content} {log : Log} (h : IsLogOf sigs log) {g : Group} (hg : g ∈ log) {r : DayRow}
    (hr : r ∈ g.rows) : RowRight sigs g.room g.ent r :=
  ⟨(h.rows g hg).2.1 r hr, (specRowsFrom_mem _ none (by rw [← specRows, ← (h.rows g hg).2.2]; exact hr)).2⟩

theorem IsLogOf.winv {sigs : Content} {log : Log} (h : IsLogOf sigs log) : WInv sigs noPending log := by
  refine ⟨h.groups, fun g hg => ⟨(h.rows g hg).1, fun r hr _ _ => h.rowRight hg hr, fun pre post hpp _ => ?_⟩,
    fun room ent day hne => Or.inr (h.covers room ent day hne)⟩
  have := (h.rows g hg).2.2
  rw [hpp] at this
  exact specRows_prefix (days := (pre ++ post).map (·.day)) this.symm

end Discret.DailyLog
