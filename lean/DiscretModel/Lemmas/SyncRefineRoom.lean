import DiscretModel.Lemmas.SyncRefinePull
import DiscretModel.Lemmas.SyncConverge
import DiscretModel.Lemmas.DailyLogSpec

/-! # C03 — refinement, a whole pull with both logs recomputed: `synchronise_room` = join with the source's room -/

namespace Discret.Sync
open Discret.DailyLog Discret.SyncOrder

def joinSlices (src : Replica) (room : Nat) (l : List (Nat × Nat)) : ARep :=
  joinAll (l.map fun x => abs (slice src room x.1 x.2))

theorem joinDays_eq (src : Replica) (room : Nat) (l : List (Nat × Nat)) {a : ARep} (ha : a.WF) :
    joinDays src room l a = join a (joinSlices src room l) :=
  foldl_join (fun x : Nat × Nat => abs (slice src room x.1 x.2)) l ha

theorem join_skip (src : Replica) (room : Nat) (p : Nat × Nat → Bool) {a : ARep}
    (l : List (Nat × Nat)) (hskip : ∀ x ∈ l, p x = false → le (abs (slice src room x.1 x.2)) a) :
    join a (joinSlices src room (l.filter p)) = join a (joinSlices src room l) :=
  join_joinAll_filter (fun x : Nat × Nat => abs (slice src room x.1 x.2)) p l hskip

theorem mem_insertByDayEnt (x y : FlatRow) (l : List FlatRow) : y ∈ insertByDayEnt x l ↔ y = x ∨ y ∈ l := by
  induction l with
  | nil => simp [insertByDayEnt]
  | cons a t ih =>
    simp only [insertByDayEnt]
    split
    · exact List.mem_cons
    · rw [List.mem_cons, ih, List.mem_cons]; exact or_left_comm

theorem mem_foldr_insert (l : List FlatRow) (y : FlatRow) : y ∈ l.foldr insertByDayEnt [] ↔ y ∈ l := by
  induction l with
  | nil => simp
  | cons a t ih => simp only [List.foldr_cons, mem_insertByDayEnt, ih, List.mem_cons]

theorem mem_roomLog (r : Replica) (room : Nat) (y : FlatRow) :
    y ∈ roomLog r room ↔ y.room = room ∧ ∃ g ∈ r.log, ∃ w ∈ g.rows, y = { room := g.room, ent := g.ent, row := w } := by
  unfold roomLog
  rw [mem_foldr_insert, List.mem_filter]
  simp only [flatten, List.mem_flatMap, List.mem_map, decide_eq_true_eq]
  constructor
  · rintro ⟨⟨g, hg, w, hw, e⟩, hr⟩; exact ⟨hr, g, hg, w, hw, e.symm⟩
  · rintro ⟨hr, g, hg, w, hw, e⟩; exact ⟨⟨g, hg, w, hw, e.symm⟩, hr⟩

def inRoom (r : Replica) (room : Nat) : Replica :=
  { nodes := r.nodes.filter fun n => n.room = room, edges := [],
    ntombs := r.ntombs.filter fun t => t.room = room, etombs := [], log := [] }

theorem mem_inRoom_nodes {r : Replica} {room : Nat} {n : Node} :
    n ∈ (inRoom r room).nodes ↔ n ∈ r.nodes ∧ n.room = room := by
  simp [inRoom]

theorem mem_inRoom_ntombs {r : Replica} {room : Nat} {t : NTomb} :
    t ∈ (inRoom r room).ntombs ↔ t ∈ r.ntombs ∧ t.room = room := by
  simp [inRoom]

theorem inRoom_noZombie {r : Replica} (h : NoZombie r) (room : Nat) : NoZombie (inRoom r room) :=
  fun t ht n hn => h t (mem_inRoom_ntombs.mp ht).1 n (mem_inRoom_nodes.mp hn).1

theorem inRoom_idsNodup {r : Replica} (h : IdsNodup r) (room : Nat) : IdsNodup (inRoom r room) :=
  h.sublist (List.filter_sublist.map _)

theorem mem_sigs_node {r : Replica} {n : Node} (h : n ∈ r.nodes) : n.sig ∈ r.sigs n.room n.ent (dayOf n.mdate) := by
  unfold Replica.sigs
  refine List.mem_append_right _ (List.mem_map.mpr ⟨n, List.mem_filter.mpr ⟨h, by simp⟩, rfl⟩)

theorem mem_sigs_ntomb {r : Replica} {t : NTomb} (h : t ∈ r.ntombs) : t.sig ∈ r.sigs t.room t.ent (dayOf t.ddate) := by
  unfold Replica.sigs
  refine List.mem_append_left _ (List.mem_append_left _ (List.mem_map.mpr ⟨t, List.mem_filter.mpr ⟨h, by simp⟩, rfl⟩))

theorem roomLog_covers {r : Replica} (hl : IsLogOf r.sigs r.log) {room ent day : Nat} (h : r.sigs room ent day ≠ []) :
    (ent, day) ∈ (roomLog r room).map fun x => (x.ent, x.row.day) := by
  obtain ⟨g, hg, hr, he, w, hw, hd⟩ := hl.covers room ent day h
  refine List.mem_map.mpr ⟨{ room := g.room, ent := g.ent, row := w }, ?_, by simp [he, hd]⟩
  exact (mem_roomLog r room _).mpr ⟨hr, g, hg, w, hw, rfl⟩

/-- **the room is the join of its days**: every row and every record of the room lies in the slice of its own
    `(entity, day)`, a day of the log since it has content; the slices hold nothing else, and a row id names one row -/
theorem joinSlices_room {src : Replica} (hz : NoZombie src) (hn : IdsNodup src) (hl : IsLogOf src.sigs src.log)
    (room : Nat) :
    joinSlices src room ((roomLog src room).map fun x => (x.ent, x.row.day)) = abs (inRoom src room) := by
  generalize hS : ((roomLog src room).map fun x => (x.ent, x.row.day)) = S
  have hcov : ∀ ent day, src.sigs room ent day ≠ [] → (ent, day) ∈ S := fun ent day h => hS ▸ roomLog_covers hl h
  have htombs : ∀ p : NTomb → Bool,
      (S.any fun k => (slice src room k.1 k.2).ntombs.any p) = (inRoom src room).ntombs.any p := by
    intro p
    rw [Bool.eq_iff_iff]
    simp only [List.any_eq_true, mem_slice_ntombs, mem_inRoom_ntombs]
    constructor
    · rintro ⟨k, _, t, ⟨ht, hr, _⟩, e⟩; exact ⟨t, ⟨ht, hr⟩, e⟩
    · rintro ⟨t, ⟨ht, hr⟩, e⟩
      exact ⟨(t.ent, dayOf t.ddate), hcov _ _ (hr ▸ List.ne_nil_of_mem (mem_sigs_ntomb ht)), t, ⟨ht, hr, rfl, rfl⟩, e⟩
  unfold joinSlices
  generalize hL : S.map (fun x => abs (slice src room x.1 x.2)) = L
  have hmem : ∀ x, x ∈ L ↔ ∃ k ∈ S, abs (slice src room k.1 k.2) = x := fun x => by rw [← hL]; exact List.mem_map
  have hdead : ∀ i, (joinAll L).dead i = (abs (inRoom src room)).dead i := fun i => by
    rw [joinAll_dead, ← hL, List.any_map]; exact htombs _
  apply ARep.ext'
  · intro i
    cases hd : (joinAll L).dead i with
    | true => rw [joinAll_wf L i hd, abs_wf (inRoom_noZombie hz room) i (by rw [← hdead, hd])]
    | false =>
      refine joinAll_ver_eq hd ?_ ?_
      · intro x hx w hxw
        obtain ⟨k, _, rfl⟩ := (hmem x).mp hx
        refine abs_ver_mono (inRoom_idsNodup hn room) (fun n h => ?_) hxw
        exact mem_inRoom_nodes.mpr ⟨(mem_slice_nodes.mp h).1, (mem_slice_nodes.mp h).2.1⟩
      · intro w hw
        obtain ⟨n, hnm, rfl, rfl⟩ := abs_ver_some hw
        obtain ⟨hns, hr⟩ := mem_inRoom_nodes.mp hnm
        have hk : (n.ent, dayOf n.mdate) ∈ S := hcov _ _ (hr ▸ List.ne_nil_of_mem (mem_sigs_node hns))
        exact ⟨_, (hmem _).mpr ⟨_, hk, rfl⟩,
          abs_ver_of_mem (slice_idsNodup hn room _ _) (mem_slice_nodes.mpr ⟨hns, hr, rfl, rfl⟩)⟩
  · exact hdead
  · intro s
    rw [joinAll_recs, ← hL, List.any_map]; exact htombs _

/-- a signature stands for the record it signs (the idealisation of Ed25519 stated in the trusted base): when the
    puller's content of some day holds the signature of a row or of a deletion record of the source, the puller
    stores that very row, resp. that very record -/
def SigsDetermine (dst src : Replica) : Prop :=
  (∀ n ∈ src.nodes, ∀ room ent day, n.sig ∈ dst.sigs room ent day → n ∈ dst.nodes) ∧
  (∀ t ∈ src.ntombs, ∀ room ent day, t.sig ∈ dst.sigs room ent day → t ∈ dst.ntombs)

theorem slice_le {dst src : Replica} (hzd : NoZombie dst) (hnd : IdsNodup dst)
    (hsig : SigsDetermine dst src) (room ent day : Nat)
    (hsub : ∀ s ∈ src.sigs room ent day, s ∈ dst.sigs room ent day) :
    le (abs (slice src room ent day)) (abs dst) := by
  refine abs_le hzd hnd (fun n hn => ?_) (fun t ht => ?_)
  · obtain ⟨hs, rfl, rfl, rfl⟩ := mem_slice_nodes.mp hn
    exact hsig.1 n hs _ _ _ (hsub _ (mem_sigs_node hs))
  · obtain ⟨hs, rfl, rfl, rfl⟩ := mem_slice_ntombs.mp ht
    exact hsig.2 t hs _ _ _ (hsub _ (mem_sigs_ntomb hs))

theorem slice_le_of_daily {dst src : Replica} (hzd : NoZombie dst) (hnd : IdsNodup dst)
    (hld : IsLogOf dst.sigs dst.log) (hls : IsLogOf src.sigs src.log) (hsig : SigsDetermine dst src) {room : Nat}
    {x : FlatRow} (hx : x ∈ roomLog src room) {l : DayRow}
    (hf : findRow dst.log { room, ent := x.ent, day := x.row.day } = some l) (hd : l.daily = x.row.daily) :
    le (abs (slice src room x.ent x.row.day)) (abs dst) := by
  obtain ⟨rfl, g, hg, w, hw, rfl⟩ := (mem_roomLog src room x).mp hx
  -- both daily hashes are the hash of the day's content, which is not empty at the source
  obtain ⟨hsne, -, hsd⟩ := hls.rowRight hg hw
  obtain ⟨g', hg', hr', he', hl', hd'⟩ := findRow_some hf
  have hdd := (hld.rowRight hg' hl').2.2
  simp only at hr' he' hd' hd
  rw [hr', he', hd', hd, hsd] at hdd
  exact slice_le hzd hnd hsig _ _ _ fun s hs => (dailyOf_inj hsne hdd).mem_iff.mp hs

section room
variable {d : Defects} {f : Nat → Nat} (hI : d.ingestIgnoresTombstones = false)

include hI in
/-- **refinement, one pull, logs recomputed.** When both logs are the logs of the stored content (C09: after a
    recomputation with nothing pending), the rows and node deletion records of the puller after `synchronise_room`
    are the join of what it held with what the source holds for that room. -/
theorem pull_refines_join (hS : d.summaryFirstEntityOnly = false) {rights : Rights} {dst src : Replica}
    (hE : Entitled rights src) (h : PairOk d f dst src) (hnd : IdsNodup dst)
    (hld : IsLogOf dst.sigs dst.log) (hls : IsLogOf src.sigs src.log) (hsig : SigsDetermine dst src) (room : Nat) :
    abs (pull d rights dst src room).dst = join (abs dst) (abs (inRoom src room)) := by
  rw [pull_refines_days hI hS hE h room, joinDays_eq _ _ _ (abs_wf h.dstClean),
    ← joinSlices_room h.srcClean h.srcIds hls room]
  -- the days of the log that the pull leaves out are below the puller
  unfold diffDays joinSlices
  rw [List.map_map, List.map_map]
  refine join_joinAll_filter _ _ _ fun x hx hpx => ?_
  split at hpx
  · rename_i l hf
    exact slice_le_of_daily h.dstClean hnd hld hls hsig hx hf (by simpa using hpx)
  · cases hpx

include hI in
/-- a pull that leaves the rows and records of the puller as they were had nothing to bring: the puller holds every
    record the source holds for the room, and of every row the source shows there a version at least as great or a
    deletion record -/
theorem pull_quiet_le (hS : d.summaryFirstEntityOnly = false) {rights : Rights} {dst src : Replica}
    (hE : Entitled rights src) (h : PairOk d f dst src) (hnd : IdsNodup dst)
    (hld : IsLogOf dst.sigs dst.log) (hls : IsLogOf src.sigs src.log) (hsig : SigsDetermine dst src) (room : Nat)
    (hq : abs (pull d rights dst src room).dst = abs dst) : le (abs (inRoom src room)) (abs dst) :=
  (join_comm _ _).trans ((pull_refines_join hI hS hE h hnd hld hls hsig room).symm.trans hq)

end room

end Discret.Sync
