import DiscretModel.Lemmas.Writer
/-
Batch-level and run-level lemmas about the writer model, for any table `T` meeting the side conditions
(`NoSwallow` / `AllRollback`, marks inside the transaction). `Props/C13.lean` instantiates them with the
table regenerated from the source.
-/
namespace Discret.Writer
open Discret.Gen.WriterTable (OnError)

theorem replies_length (a : Ack) (ms : List Msg) : (replies a ms).length = ms.length := by simp [replies]

theorem mem_replies {a b : Ack} {ms : List Msg} (h : a ∈ replies b ms) : a = b := by
  simp only [replies, List.mem_map] at h
  obtain ⟨_, _, rfl⟩ := h; rfl

theorem processBatch_wedged (T : Table) (D : Defects) (s : Sys) (ms : List Msg) (f : Option Fault) {w : Db}
    (h : s.conn.txn = some w) : processBatch T D s ms f = (s, replies .err ms) := by
  simp [processBatch, h]

theorem processBatch_cases (T : Table) (D : Defects) (s : Sys) (ms : List Msg) (f : Option Fault)
    (hT : NoSwallow T ms) (hm : T.marksInTxn = true) :
    ((processBatch T D s ms f).1.db = s.db ∧ (processBatch T D s ms f).2 = replies .err ms) ∨
    ((processBatch T D s ms f).1 = { db := commitBatch T s.db ms, conn := ⟨none⟩ } ∧
      (processBatch T D s ms f).2 = replies .ok ms ∧ s.conn.txn = none ∧
      f ≠ some .begin ∧ f ≠ some .marks ∧ f ≠ some .commit ∧ f ≠ some .commitRolledBack) := by
  fun_cases processBatch T D s ms f
  case case8 hs hb w hr _ h1 _ h2 h3 =>
    -- the only branch that answers `Ok`: the loop ran the whole batch, marks and COMMIT went through
    cases runGroups_done hT _ _ _ hr
    exact Or.inr ⟨rfl, rfl, hs, hb, h1, h2, h3⟩
  case case9 | case10 | case11 | case12 => exact absurd hm ‹_›    -- marks outside the transaction
  all_goals exact Or.inl ⟨rfl, rfl⟩                               -- every early return

theorem processBatch_idle (T : Table) (D : Defects) (s : Sys) (ms : List Msg) (f : Option Fault)
    (hT : AllRollback T ms) (hs : s.conn.txn = none)
    (h1 : D.marksFailureLeavesTxnOpen = false ∨ f ≠ some .marks)
    (h2 : D.commitFailureLeavesTxnOpen = false ∨ f ≠ some .commit) :
    (processBatch T D s ms f).1.conn.txn = none := by
  fun_cases processBatch T D s ms f
  case case1 h => rw [hs] at h; cases h
  case case2 => exact hs                                          -- BEGIN failed
  case case4 hr => cases runGroups_failed hT _ _ _ _ hr           -- an arm returning without ROLLBACK
  -- the three places where the connection's fate depends on a switch
  case case5 hf => rw [h1.resolve_right (· hf)]; rfl
  case case6 hf => rw [h2.resolve_right (· hf)]; rfl
  case case9 hf => rw [h2.resolve_right (· hf)]; rfl
  all_goals rfl

theorem processBatch_logInv (T : Table) (D : Defects) (s : Sys) (ms : List Msg) (f : Option Fault)
    (hT : NoSwallow T ms) (hm : T.marksInTxn = true) (hwf : ∀ m ∈ ms, m.WF T) (h : LogInv s.db) :
    LogInv (processBatch T D s ms f).1.db := by
  rcases processBatch_cases T D s ms f hT hm with ⟨h1, _⟩ | ⟨h1, _⟩
  · rw [h1]; exact h
  · rw [h1]; exact commitBatch_logInv T s.db ms h hwf

theorem crashBatch_cases (T : Table) (db : Db) (ms : List Msg) (c : CrashPoint) (hm : T.marksInTxn = true) :
    ((crashBatch T db ms c).1 = db ∨ (crashBatch T db ms c).1 = commitBatch T db ms) ∧
      (crashBatch T db ms c).2 = [] := by
  unfold crashBatch
  rw [if_pos hm]
  refine ⟨?_, rfl⟩
  cases c.afterCommitPoint
  · exact Or.inl rfl
  · exact Or.inr rfl

theorem crashBatch_logInv (T : Table) (db : Db) (ms : List Msg) (c : CrashPoint) (hm : T.marksInTxn = true)
    (hwf : ∀ m ∈ ms, m.WF T) (h : LogInv db) : LogInv (crashBatch T db ms c).1 := by
  rcases (crashBatch_cases T db ms c hm).1 with h1 | h1
  · rw [h1]; exact h
  · rw [h1]; exact commitBatch_logInv T db ms h hwf

inductive Op where
  | batch (ms : List Msg) (f : Option Fault)
  | crash (ms : List Msg) (c : CrashPoint)    -- the process dies at `c`, then the folder is reopened
  | recompute
deriving Repr, DecidableEq

def recomputeMsg : Msg := { kind := .computeDailyLog, stmts := [.recompute] }

def Op.msgs : Op → List Msg
  | .batch ms _ => ms
  | .crash ms _ => ms
  | .recompute => [recomputeMsg]

def stepOp (T : Table) (D : Defects) (s : Sys) : Op → Sys
  | .batch ms f => (processBatch T D s ms f).1
  | .crash ms c =>
    match s.conn.txn with
    | some _ => (processBatch T D s ms none).1     -- the batch fails at BEGIN: the crash point is never reached
    | none => restart (crashBatch T s.db ms c).1
  | .recompute => (processBatch T D s [recomputeMsg] none).1

def run (T : Table) (D : Defects) (s : Sys) (ops : List Op) : Sys := ops.foldl (stepOp T D) s

theorem stepOp_wedged (T : Table) (D : Defects) (s : Sys) {w : Db} (h : s.conn.txn = some w) (op : Op) :
    stepOp T D s op = s := by
  cases op with
  | batch ms f => exact congrArg Prod.fst (processBatch_wedged T D s ms f h)
  | crash ms c => simp only [stepOp, h]; exact congrArg Prod.fst (processBatch_wedged T D s ms none h)
  | recompute => exact congrArg Prod.fst (processBatch_wedged T D s _ none h)

theorem run_wedged (T : Table) (D : Defects) (s : Sys) {w : Db} (h : s.conn.txn = some w) (ops : List Op) :
    run T D s ops = s :=
  foldl_invariant (· = s) rfl fun s' op _ e => by subst e; exact stepOp_wedged T D s' h op

theorem stepOp_logInv (T : Table) (D : Defects) (s : Sys) (op : Op)
    (hT : NoSwallow T op.msgs) (hm : T.marksInTxn = true) (hwf : ∀ m ∈ op.msgs, m.WF T) (h : LogInv s.db) :
    LogInv (stepOp T D s op).db := by
  cases op with
  | batch ms f => exact processBatch_logInv T D s ms f hT hm hwf h
  | crash ms c =>
    simp only [stepOp]
    split
    · exact processBatch_logInv T D s ms none hT hm hwf h
    · exact (restart_clean (crashBatch_logInv T s.db ms c hm hwf h)).inv
  | recompute => exact processBatch_logInv T D s _ none hT hm hwf h

theorem run_logInv (T : Table) (D : Defects) (ops : List Op) (s : Sys)
    (hT : ∀ op ∈ ops, NoSwallow T op.msgs) (hm : T.marksInTxn = true)
    (hwf : ∀ op ∈ ops, ∀ m ∈ op.msgs, m.WF T) (h : LogInv s.db) : LogInv (run T D s ops).db :=
  foldl_invariant (fun s => LogInv s.db) h fun s op ho h => stepOp_logInv T D s op (hT op ho) hm (hwf op ho) h

/-- the guard of the partial statement: no batch of the run suffers a failure of the marks write or of COMMIT -/
def Op.noLateFault : Op → Prop
  | .batch _ f => f ≠ some .marks ∧ f ≠ some .commit
  | _ => True

theorem stepOp_idle (T : Table) (D : Defects) (s : Sys) (op : Op) (hT : AllRollback T op.msgs)
    (hs : s.conn.txn = none) (hD : D = Defects.none ∨ op.noLateFault) : (stepOp T D s op).conn.txn = none := by
  cases op with
  | batch ms f =>
    rcases hD with rfl | ⟨h1, h2⟩
    · exact processBatch_idle T _ s ms f hT hs (Or.inl rfl) (Or.inl rfl)
    · exact processBatch_idle T D s ms f hT hs (Or.inr h1) (Or.inr h2)
  | crash ms c => simp [stepOp, hs, restart]
  | recompute =>
    exact processBatch_idle T D s _ none hT hs (Or.inr (by simp)) (Or.inr (by simp))

theorem run_idle (T : Table) (D : Defects) (ops : List Op) (s : Sys)
    (hT : ∀ op ∈ ops, AllRollback T op.msgs) (hs : s.conn.txn = none)
    (hD : D = Defects.none ∨ ∀ op ∈ ops, op.noLateFault) : (run T D s ops).conn.txn = none :=
  foldl_invariant (fun s => s.conn.txn = none) hs fun s op ho hs =>
    stepOp_idle T D s op (hT op ho) hs (hD.imp id (· op ho))

theorem init_logInv : LogInv init.db := by
  constructor
  · intro e he _
    cases List.mem_singleton.mp he
    exact ⟨by decide, by decide⟩
  · intro d hd
    refine ⟨_, List.mem_singleton_self _, ?_⟩
    cases d with
    | zero => rfl
    | succ n => exact nomatch hd    -- the one row sits on day 0: `count init.db (n + 1)` evaluates to 0

end Discret.Writer
