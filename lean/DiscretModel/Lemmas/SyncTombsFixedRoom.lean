import DiscretModel.Lemmas.SyncTombsScoped
/-
C11 at the level of row ids for the code with #18 repaired, for histories in which a row keeps the room it was created
in (the histories of the property: creations, updates, reference changes, deletions, any pulls — no room move):
no replica ever stores a row whose id carries a deletion record on that replica. The room-scoping of the synchronised
deletion and of the deletion-log lookup is then immaterial, because every version and every deletion record of a row
name the same room.
-/
namespace Discret.Sync
open Discret.DailyLog

def RoomFn (f : Nat → Nat) (r : Replica) : Prop :=
  (∀ n ∈ r.nodes, n.room = f n.id) ∧ (∀ t ∈ r.ntombs, t.room = f t.id)

theorem RoomFn.noZombie {f : Nat → Nat} {r : Replica} (hf : RoomFn f r) (h : NoZombieR r) : NoZombie r := by
  intro t ht n hn e
  apply h t ht n hn e
  rw [hf.1 n hn, hf.2 t ht, e]

theorem RoomFn.store {f : Nat → Nat} {cur r : Replica} (h : RoomFn f cur)
    (hn : ∀ x ∈ r.nodes, x ∈ cur.nodes ∨ x.room = f x.id) (ht : r.ntombs = cur.ntombs) : RoomFn f r :=
  ⟨fun x hx => (hn x hx).elim (h.1 x) id, fun t ht' => h.2 t (ht ▸ ht')⟩

theorem RoomFn.delete {f : Nat → Nat} {cur r : Replica} {t : NTomb} (h : RoomFn f cur)
    (hn : ∀ x ∈ r.nodes, x ∈ cur.nodes) (ht : r.ntombs = putNTomb t cur.ntombs) (hr : t.room = f t.id) :
    RoomFn f r := by
  refine ⟨fun x hx => h.1 x (hn x hx), fun u hu => ?_⟩
  rcases mem_putNTomb (ht ▸ hu) with e | hu
  · exact e ▸ hr
  · exact h.2 u hu

theorem roomFn_frame {f : Nat → Nat} {r r' : Replica} (en : r'.nodes = r.nodes) (et : r'.ntombs = r.ntombs)
    (h : RoomFn f r) : RoomFn f r' :=
  h.store (fun _ hx => Or.inl (en ▸ hx)) et

theorem empty_roomFn (f : Nat → Nat) : RoomFn f Replica.empty :=
  ⟨fun _ hn => (nomatch hn), fun _ ht => (nomatch ht)⟩

section
variable {f : Nat → Nat}

theorem syncDay_roomFn (d : Defects) (rights : Rights) {dst src : Replica} (hd : RoomFn f dst) (hs : RoomFn f src)
    (room ent day : Nat) : RoomFn f (syncDay d rights dst src room ent day).dst := by
  refine syncDay_induct d rights src (RoomFn f) roomFn_frame ?_ ?_ hd room ent day
  · intro r t ht hr
    exact hr.delete (fun x hx => (mem_applyNTomb_nodes.mp hx).1) rfl (hs.2 t ht)
  · intro r n o hn _ hr
    refine hr.store (fun x hx => ?_) (ingestNode_ntombs d rights r n o)
    rcases mem_ingestNode_nodes hx with e | hx
    · exact Or.inr (e ▸ hs.1 n hn)
    · exact Or.inl hx

theorem pull_roomFn (d : Defects) (rights : Rights) {dst src : Replica} (hd : RoomFn f dst) (hs : RoomFn f src)
    (room : Nat) : RoomFn f (pull d rights dst src room).dst :=
  pull_induct d rights src room (RoomFn f) roomFn_frame
    (fun _ ent day h => syncDay_roomFn d rights h hs room ent day) hd

theorem pull_noZombie_rooms {d : Defects} (hI : d.ingestIgnoresTombstones = false) (rights : Rights)
    {dst src : Replica} (h : NoZombie dst) (hd : RoomFn f dst) (hs : RoomFn f src) (room : Nat) :
    NoZombie (pull d rights dst src room).dst ∧ RoomFn f (pull d rights dst src room).dst ∧
      ∀ i ∈ dst.deadIds, i ∈ (pull d rights dst src room).dst.deadIds :=
  have hr := pull_roomFn d rights hd hs room
  ⟨hr.noZombie (pull_noZombieR hI rights src h.toR room).1, hr, (pull_keepsRecords d rights dst src room).deadIds⟩

def WOp.keepsRoom (f : Nat → Nat) : WOp → Prop
  | .new row room _ _ _ => room = f row
  | .upd row _ _ (some room) => room = f row
  | _ => True

theorem WOp.keepsRoom.room {snapNodes : List Node} {op : WOp} (h : op.keepsRoom f)
    (hsn : ∀ n ∈ snapNodes, n.room = f n.id) {n : Node} (hs : op.stores snapNodes n) : n.room = f n.id := by
  cases op with
  | new row room ent val sig => rw [hs.1, hs.2]; exact h
  | del row dsig => exact hs.elim
  | upd row val sig room =>
    obtain ⟨hid, old, ho, e, hr⟩ := hs
    rw [hid, hr]
    cases room with
    | none => exact e ▸ hsn old ho
    | some room => exact h
  | ref row to sig | unref row to sig dsig =>
    obtain ⟨hid, old, ho, e, hr⟩ := hs
    rw [hid, hr, ← e]
    exact hsn old ho

theorem effectOf_roomFn (d : Defects) (w : World) {snap cur : Replica} (hs : RoomFn f snap) (hc : RoomFn f cur)
    (p : Nat) (op : WOp) (hk : op.keepsRoom f) : RoomFn f (effectOf d w snap cur p op).cur := by
  refine effectOf_cases d w snap cur p op (RoomFn f) hc ?_ ?_
  · intro n r hst hn _ et
    refine hc.store (fun x hx => ?_) et
    rcases hn x hx with hx | rfl
    · exact Or.inl hx
    · exact Or.inr (hk.room hs.1 hst)
  · intro old t r ho hid hr hn et
    exact hc.delete (fun x hx => (hn x hx).1) et (by rw [hr, hid]; exact hs.1 old ho)

/-- everywhere in the world a row, and a deletion record of it, is in the room `f` gives its id -/
def WRooms (f : Nat → Nat) (w : World) : Prop := WAll (RoomFn f) w

theorem init_WRooms (f : Nat → Nat) (rights : Rights) : WRooms f (World.initDated rights) :=
  .init (empty_roomFn f) rights

def Op.keepsRoom (f : Nat → Nat) : Op → Prop
  | .write _ op => op.keepsRoom f
  | _ => True

theorem noZombie_rooms_kept {d : Defects} (hI : d.ingestIgnoresTombstones = false) :
    Kept d (fun r => NoZombie r ∧ RoomFn f r) fun _ tombs op => op.freshFor tombs ∧ op.keepsRoom f where
  frame en et h := ⟨Apart.frame en et h.1, roomFn_frame en et h.2⟩
  empty := ⟨Apart.empty, empty_roomFn f⟩
  pull rights _ _ room hd hs :=
    have h := pull_noZombie_rooms hI rights hd.1 hd.2 hs.2 room
    ⟨h.1, h.2.1⟩
  effect w _ _ p op hs hc hg := ⟨effectOf_noZombie d w _ hc.1 p op hg.1, effectOf_roomFn d w hs.2 hc.2 p op hg.2⟩

theorem run_noZombie_rooms {d : Defects} (hI : d.ingestIgnoresTombstones = false) (ops : List Op) (w : World)
    (h : WZ w) (hr : WRooms f w) (hf : runFresh d w ops) (hk : ∀ op ∈ ops, op.keepsRoom f) :
    StepOn NoZombie w (World.run d w ops) ∧ WRooms f (World.run d w ops) := by
  let R : World → List Op → Prop := fun w ops => runFresh d w ops ∧ ∀ o ∈ ops, o.keepsRoom f
  have hR : ∀ w op t, R w (op :: t) →
      (∀ p wop, op = .write p wop → wop.freshFor (w.peer p).ntombs ∧ wop.keepsRoom f) ∧ R (w.exec d op) t := by
    intro w op t ⟨⟨hop, ht⟩, hk⟩
    refine ⟨fun p wop e => ⟨hop.guard p wop e, ?_⟩, ht, fun o ho => hk o (List.mem_cons_of_mem _ ho)⟩
    subst e
    exact hk _ List.mem_cons_self
  have s := run_keeps (noZombie_rooms_kept hI) R hR ops w (WAll.and_iff.mpr ⟨h, hr⟩) ⟨hf, hk⟩
  obtain ⟨hz, hrooms⟩ := WAll.and_iff.mp s.inv
  exact ⟨⟨hz, s.records⟩, hrooms⟩

end

end Discret.Sync
