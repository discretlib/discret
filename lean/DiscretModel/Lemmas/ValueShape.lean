import DiscretModel.Model.Value
/-
Shape invariance of the statement text (`Model/Value.lean`, `compile`) for every `Defects` value without the
two statement-level deviations (`defaultSpliced`, `varAliasesLiteral`) — `Defects.none` and, since the fixes
d527622 and cedb2ae, `Defects.asImplemented`:
erasing every literal and default value of a query changes no token except the contents of
spliced numerals — in particular the text, the parameter numbering and the binding order are the same.
-/
namespace Discret.Value

def Lit.erase : Lit → Lit
  | .null => .null
  | .bool _ => .bool false
  | .int _ => .int 0
  | .float _ => .float []
  | .str _ => .str []

def FieldM.erase (f : FieldM) : FieldM := { f with dflt := f.dflt.map Lit.erase }

def FVal.erase : FVal → FVal
  | .var x => .var x
  | .lit l => .lit l.erase

def Filter.erase (f : Filter) : Filter := { f with value := f.value.erase, field := f.field.erase }
def SelField.erase (f : SelField) : SelField := { f with field := f.field.erase }
def SubQ.erase (q : SubQ) : SubQ :=
  { q with fields := q.fields.map SelField.erase, filters := q.filters.map Filter.erase }
def QField.erase : QField → QField
  | .scalar f => .scalar f.erase
  | .sub q => .sub q.erase
/-- the skeleton of a query: every parameter name, alias, field and operator kept, every literal and
    default value replaced by an empty one of the same kind -/
def TopQ.erase (q : TopQ) : TopQ :=
  { q with fields := q.fields.map QField.erase, filters := q.filters.map Filter.erase }

def Tok.shape : Tok → Tok
  | .num _ => .num []
  | .quoted _ => .quoted []
  | t => t

def shapes (ts : List Tok) : List Tok := ts.map Tok.shape

/-- the binding order with the text of literals dropped (variables keep their names) -/
def eraseP (p : Bool × List Char) : Bool × List Char := if p.1 then (true, []) else p
def eraseParams (ps : Params) : Params := ps.map eraseP

@[simp] theorem shapes_append (a b : List Tok) : shapes (a ++ b) = shapes a ++ shapes b := by
  simp [shapes]
@[simp] theorem shapes_cons (a : Tok) (b : List Tok) : shapes (a :: b) = a.shape :: shapes b := by
  simp [shapes]
@[simp] theorem shapes_nil : shapes [] = [] := rfl
@[simp] theorem shape_txt (s : String) : (Tok.txt s).shape = .txt s := rfl
@[simp] theorem shape_bind (n : Nat) : (Tok.bind n).shape = .bind n := rfl
@[simp] theorem shape_num (s : List Char) : (Tok.num s).shape = .num [] := rfl
@[simp] theorem shape_quoted (s : List Char) : (Tok.quoted s).shape = .quoted [] := rfl
@[simp] theorem shape_tab (t : Nat) : (tab t).shape = tab t := rfl
@[simp] theorem eraseParams_length (ps : Params) : (eraseParams ps).length = ps.length := by
  simp [eraseParams]
@[simp] theorem eraseParams_append (a b : Params) : eraseParams (a ++ b) = eraseParams a ++ eraseParams b := by
  simp [eraseParams]

/-- `r'` (compiled from the skeleton, continuing the erased bind list) is `r` up to the values: the bind list of `r` erased,
    the same token shapes. The `_sim` lemmas are used as rewrite rules: `simp` moves `eraseParams` out of the innermost
    call first, which brings the call around it into the form its own lemma expects. -/
abbrev Sim (r' r : Params × List Tok) : Prop := r'.1 = eraseParams r.1 ∧ shapes r'.2 = shapes r.2

theorem addParam_internal (d : Defects) (ps : Params) (s : List Char) :
    addParam d ps true s = (ps ++ [(true, s)], ps.length + 1) := rfl

theorem defaultTok_sim (d : Defects) (ps : Params) (l : Lit) :
    (defaultTok d (eraseParams ps) l.erase).1 = eraseParams (defaultTok d ps l).1 ∧
    (defaultTok d (eraseParams ps) l.erase).2.shape = (defaultTok d ps l).2.shape := by
  cases l <;> simp [Lit.erase, defaultTok, addParam_internal, eraseParams, eraseP]

theorem selFieldToks_sim (d : Defects) (ps : Params) (table : String) (f : SelField) :
    Sim (selFieldToks d (eraseParams ps) table f.erase) (selFieldToks d ps table f) := by
  simp only [Sim, selFieldToks, SelField.erase, FieldM.erase]
  by_cases hsys : f.field.isSystem = true
  · simp [hsys]
  · cases f.field.dflt <;> simp [hsys, defaultTok_sim]

theorem selFieldsLoop_sim (d : Defects) (table : String) (t : Nat) (ps : Params) (fs : List SelField) :
    Sim (selFieldsLoop d table t (eraseParams ps) (fs.map SelField.erase)) (selFieldsLoop d table t ps fs) := by
  induction fs generalizing ps with
  | nil => simp [Sim, selFieldsLoop]
  | cons f rest ih =>
    cases rest with
    | nil => simp [Sim, selFieldsLoop, selFieldToks_sim]
    | cons g rest =>
      simp only [List.map_cons] at ih
      simp [Sim, selFieldsLoop, selFieldToks_sim, ih]

/-- without the splice a filter writes the default of its field as a selection does -/
theorem filterDefaultTok_bound (d : Defects) (hs : d.defaultSpliced = false) (ps : Params) (l : Lit) :
    filterDefaultTok d ps l = defaultTok d ps l := by
  cases l <;> simp [filterDefaultTok, defaultTok, hs]

section
variable {d : Defects} (hv : d.varAliasesLiteral = false) (hs : d.defaultSpliced = false)
include hv

theorem findSlot_erase (x : List Char) (ps : Params) (i : Nat) :
    findSlot d x (eraseParams ps) i = findSlot d x ps i := by
  induction ps generalizing i with
  | nil => rfl
  | cons p ps ih =>
    obtain ⟨b, v⟩ := p
    cases b <;> simp [eraseParams, eraseP, findSlot, hv] at ih ⊢ <;> rw [ih]

theorem addParam_var_erase (ps : Params) (x : List Char) :
    addParam d (eraseParams ps) false x =
      (eraseParams (addParam d ps false x).1, (addParam d ps false x).2) := by
  simp only [addParam, findSlot_erase hv, Bool.false_eq_true, if_false]
  cases findSlot d x ps 1 with
  | some i => rfl
  | none => simp [eraseParams, eraseP]

theorem filterValue_sim (ps : Params) (op : String) (v : FVal) :
    (filterValue d (eraseParams ps) op v.erase).1 = eraseParams (filterValue d ps op v).1 ∧
    (filterValue d (eraseParams ps) op v.erase).2.1.shape = (filterValue d ps op v).2.1.shape ∧
    (filterValue d (eraseParams ps) op v.erase).2.2 = (filterValue d ps op v).2.2 := by
  rcases v with x | l
  · simp [FVal.erase, filterValue, addParam_var_erase hv]
  · cases l <;> simp [FVal.erase, Lit.erase, filterValue, addParam_internal, eraseParams, eraseP]

include hs

theorem filterToks_sim (ps : Params) (t : Nat) (f : Filter) :
    Sim (filterToks d (eraseParams ps) t f.erase) (filterToks d ps t f) := by
  simp only [Sim, filterToks, Filter.erase, FieldM.erase, filterValue_sim hv]
  by_cases hsys : f.field.isSystem = true
  · simp [hsys, filterValue_sim hv]
  · cases f.field.dflt <;> simp [hsys, filterValue_sim hv, filterDefaultTok_bound d hs, defaultTok_sim] <;> rfl

theorem filtersLoop_sim (t : Nat) (ps : Params) (fs : List Filter) :
    Sim (filtersLoop d t (eraseParams ps) (fs.map Filter.erase)) (filtersLoop d t ps fs) := by
  induction fs generalizing ps with
  | nil => simp [Sim, filtersLoop]
  | cons f rest ih =>
    cases rest with
    | nil => simpa [filtersLoop] using filterToks_sim hv hs ps t f
    | cons g rest =>
      simp only [List.map_cons] at ih
      simp [Sim, filtersLoop, filterToks_sim hv hs, ih]

theorem whereFilters_sim (ps : Params) (t : Nat) (fs : List Filter) :
    Sim (whereFilters d (eraseParams ps) t (fs.map Filter.erase)) (whereFilters d ps t fs) := by
  have := filtersLoop_sim hv hs t ps fs
  cases fs <;> simp_all [Sim, whereFilters]

theorem subEntityQuery_sim (ps : Params) (q : SubQ) (parent : String) (t : Nat) (u : Bool) :
    Sim (subEntityQuery d (eraseParams ps) q.erase parent t u) (subEntityQuery d ps q parent t u) := by
  simp [Sim, subEntityQuery, subFields, SubQ.erase, selFieldsLoop_sim, whereFilters_sim hv hs]

theorem subGroupArray_sim (ps : Params) (q : SubQ) (parent : String) (t : Nat) :
    Sim (subGroupArray d (eraseParams ps) q.erase parent t) (subGroupArray d ps q parent t) := by
  simp [Sim, subGroupArray, subEntityQuery_sim hv hs]

theorem qFieldToks_sim (ps : Params) (table : String) (t : Nat) (fld : QField) :
    Sim (qFieldToks d (eraseParams ps) table t fld.erase) (qFieldToks d ps table t fld) := by
  rcases fld with f | q
  · exact selFieldToks_sim d ps table f
  · have hk : q.erase.isArray = q.isArray ∧ q.erase.key = q.key := ⟨rfl, rfl⟩
    simp only [Sim, QField.erase, qFieldToks, hk]
    split <;> simp [subGroupArray_sim hv hs, subEntityQuery_sim hv hs]

theorem qFieldsLoop_sim (table : String) (t : Nat) (ps : Params) (fs : List QField) :
    Sim (qFieldsLoop d table t (eraseParams ps) (fs.map QField.erase)) (qFieldsLoop d table t ps fs) := by
  induction fs generalizing ps with
  | nil => simp [Sim, qFieldsLoop]
  | cons f rest ih =>
    cases rest with
    | nil => simp [Sim, qFieldsLoop, qFieldToks_sim hv hs]
    | cons g rest =>
      simp only [List.map_cons] at ih
      simp [Sim, qFieldsLoop, qFieldToks_sim hv hs, ih]

theorem existsLoop_sim (table : String) (t : Nat) (ps : Params) (fs : List QField) :
    Sim (existsLoop d table t (eraseParams ps) (fs.map QField.erase)) (existsLoop d table t ps fs) := by
  induction fs generalizing ps with
  | nil => simp [Sim, existsLoop]
  | cons f rest ih =>
    rcases f with x | q
    · simpa [QField.erase, existsLoop] using ih ps
    · have hk : q.erase.nullable = q.nullable ∧ q.erase.isArray = q.isArray := ⟨rfl, rfl⟩
      simp only [List.map_cons, QField.erase, existsLoop, hk]
      split
      · exact ih ps
      · simp [Sim, subEntityQuery_sim hv hs, ih]

theorem entityQuery_sim (ps : Params) (q : TopQ) (t : Nat) :
    Sim (entityQuery d (eraseParams ps) q.erase t) (entityQuery d ps q t) := by
  simp [Sim, entityQuery, TopQ.erase, qFieldsLoop_sim hv hs, existsLoop_sim hv hs, whereFilters_sim hv hs]

theorem compile_erase (q : TopQ) :
    (compile d q.erase).1 = eraseParams (compile d q).1 ∧
    shapes (compile d q.erase).2 = shapes (compile d q).2 := by
  have h : Sim (entityQuery d [] q.erase 1) (entityQuery d [] q 1) := entityQuery_sim hv hs [] q 1
  simp [compile, h.1, h.2]

end
end Discret.Value
