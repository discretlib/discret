import DiscretModel.Lemmas.WriterRun
/-
C13 — Writes are atomic, durable once acknowledged, and leave the log repairable.

Model: `Model/Writer.lean` (`process_batch_write`, the writer thread's replies, the marks and the
recomputation of the daily log); the per-arm error policy, which arm feeds the marks and the position of
the marks write come from `Gen/WriterTable.lean`, regenerated from `sqlite_database.rs` on every run.

Assumed, not proved (trusted base): an SQLite transaction is atomic and a committed transaction survives
the death of the process (synchronous=NORMAL; the code asks for WAL, the journal mode measured is `delete`,
DESIGN §9.3.3); nothing is claimed about power loss or about the journal itself. All statements quantify over every batch (any number of messages, any statement
lists), every fault, every crash point and every sequence of batches — no bound.
-/
namespace Discret.Writer
open Discret.Gen.WriterTable (OnError)

/-! ### what the regenerated table says about the source (closed by evaluation: a change of the source
    that changes one of these facts stops this file from compiling) -/

/-- every arm that executes statements rolls back and returns the error -/
theorem C13_table_everyArmRollsBack :
    ∀ k ∈ Kind.all, k = .optimize ∨ Table.ofGen.onError k = .rollbackReturn := by decide +kernel

/-- the arms that write rows or deletion records feed the marks; the others do not -/
theorem C13_table_marks :
    (Kind.all.filter fun k => Table.ofGen.marks k) =
      [.deletion, .mutation, .mutationStream, .nodes, .roomMutation, .roomMutationStream,
       .deleteEdges, .deleteNodes] := by decide +kernel

/-- the marks write sits between BEGIN and COMMIT -/
theorem C13_table_marksInTransaction : Table.ofGen.marksInTxn = true := by decide

/-- **one buffer, one transaction**: the loop over the buffer of `process_batch_write` contains no BEGIN / COMMIT /
    END / SAVEPOINT / RELEASE statement (only the ROLLBACK of its error paths) — the model's `processBatch` is one
    transaction because of this; an arm that commits in the middle (seed C13-6: the hourly `Optimize` tick handled
    where it sits in the buffer) changes the regenerated count. -/
theorem C13_table_oneTransaction : Discret.Gen.WriterTable.txnControlInLoop = 0 := by decide

/-- `Defects.asImplemented` is what the source does after a failed marks write / a failed COMMIT -/
theorem C13_table_defectsAsInSource :
    Discret.Gen.WriterTable.marksFailureRollsBack = !Defects.asImplemented.marksFailureLeavesTxnOpen ∧
    Discret.Gen.WriterTable.commitFailureRollsBack = !Defects.asImplemented.commitFailureLeavesTxnOpen ∧
    Discret.Gen.WriterTable.beginFailureReturns = true := by decide

/-- writer thread: `Ok` replies only in the `Ok` branch of the result, `Err` only in the `Err` branch,
    the same number of replies in both -/
theorem C13_table_replies :
    Discret.Gen.WriterTable.okRepliesInErrBranch = 0 ∧ Discret.Gen.WriterTable.errRepliesInOkBranch = 0 ∧
    Discret.Gen.WriterTable.okBranchReplies = Discret.Gen.WriterTable.errBranchReplies := by decide

/-- the instrumented points the correspondence run relies on are where the model puts them -/
theorem C13_table_faultPoints :
    Discret.Gen.WriterTable.steps =
      ["hook:batch.before_begin", "BEGIN", "loop", "hook:batch.group.before", "hook:batch.group.after",
       "hook:batch.before_marks", "marks", "hook:batch.before_commit", "COMMIT", "hook:batch.after_commit"] ∧
    Discret.Gen.WriterTable.ackPoint = true := ⟨rfl, rfl⟩

theorem Kind.mem_all (k : Kind) : k ∈ Kind.all := by cases k <;> decide +kernel

/-- a message of the model is well formed when it respects what its arm can do: `Optimize` carries no
    statement; only the arms that feed the marks carry row writes or deletions -/
def Msg.Valid (m : Msg) : Prop :=
  (m.kind = .optimize → m.stmts = []) ∧ (Table.ofGen.marks m.kind = true ∨ ∀ s ∈ m.stmts, s.touchesLog = false)

theorem allRollback_ofGen {ms : List Msg} (h : ∀ m ∈ ms, m.Valid) : AllRollback Table.ofGen ms := by
  intro m hm
  rcases C13_table_everyArmRollsBack m.kind (Kind.mem_all _) with hk | hk
  · exact Or.inr ((h m hm).1 hk)
  · exact Or.inl hk

/-- the driver only runs messages accepted by `Msg.validB`: they are in the domain of the theorems -/
theorem Msg.valid_of_validB {m : Msg} (h : m.validB Table.ofGen = true) : m.Valid := by
  simp only [Msg.validB, Bool.and_eq_true, Bool.or_eq_true, bne_iff_ne, ne_eq,
    List.all_eq_true, List.isEmpty_iff, Bool.not_eq_eq_eq_not, Bool.not_true] at h
  exact ⟨fun hk => h.1.resolve_left (· hk), h.2⟩

def Op.Valid (op : Op) : Prop := ∀ m ∈ op.msgs, m.Valid

theorem recomputeMsg_valid : recomputeMsg.Valid := by
  refine ⟨by decide, Or.inr ?_⟩
  intro s hs
  simp only [recomputeMsg, List.mem_singleton] at hs
  subst hs; rfl

/-- **C13 (i).** Whatever the batch, the state of the connection and the fault: the replies are all `Ok`
    or all `Err`, one per message; and if any reply is `Ok` then the run started from an idle connection,
    met no failure of BEGIN, of the marks write or of COMMIT, and ended with the whole batch committed
    and the connection idle. -/
theorem C13_ok_only_after_commit (D : Defects) (s : Sys) (ms : List Msg) (f : Option Fault)
    (hv : ∀ m ∈ ms, m.Valid) :
    ((processBatch Table.ofGen D s ms f).2 = replies .ok ms ∨ (processBatch Table.ofGen D s ms f).2 = replies .err ms) ∧
    (Ack.ok ∈ (processBatch Table.ofGen D s ms f).2 →
      (processBatch Table.ofGen D s ms f).1 = { db := commitBatch Table.ofGen s.db ms, conn := ⟨none⟩ } ∧
      s.conn.txn = none ∧ f ≠ some .begin ∧ f ≠ some .marks ∧ f ≠ some .commit ∧ f ≠ some .commitRolledBack) := by
  rcases processBatch_cases Table.ofGen D s ms f (allRollback_ofGen hv).noSwallow C13_table_marksInTransaction
    with ⟨_, h2⟩ | ⟨h1, h2, h3⟩
  · refine ⟨Or.inr h2, ?_⟩
    intro hok
    rw [h2] at hok
    exact absurd (mem_replies hok) (by decide)
  · exact ⟨Or.inl h2, fun _ => ⟨h1, h3⟩⟩

/-- **C13 (ii), statement errors.** For every fault, what every other connection sees after the batch is
    the old database — and then every message is answered `Err` — or the fully applied batch — and then
    every message is answered `Ok`. Holds for the code as it is (`Defects.asImplemented` included). -/
theorem C13_atomic (D : Defects) (s : Sys) (ms : List Msg) (f : Option Fault) (hv : ∀ m ∈ ms, m.Valid) :
    ((processBatch Table.ofGen D s ms f).1.db = s.db ∧ (processBatch Table.ofGen D s ms f).2 = replies .err ms) ∨
    ((processBatch Table.ofGen D s ms f).1.db = commitBatch Table.ofGen s.db ms ∧
      (processBatch Table.ofGen D s ms f).2 = replies .ok ms) := by
  rcases processBatch_cases Table.ofGen D s ms f (allRollback_ofGen hv).noSwallow C13_table_marksInTransaction
    with h | ⟨h1, h2, _⟩
  · exact Or.inl h
  · exact Or.inr ⟨by rw [h1], h2⟩

/-- **C13 (ii), crashes.** For every crash point, what is found after the restart is the old database
    or the fully applied batch, and no message was answered. -/
theorem C13_atomic_crash (db : Db) (ms : List Msg) (c : CrashPoint) :
    ((crashBatch Table.ofGen db ms c).1 = db ∨ (crashBatch Table.ofGen db ms c).1 = commitBatch Table.ofGen db ms) ∧
    (crashBatch Table.ofGen db ms c).2 = [] :=
  crashBatch_cases Table.ofGen db ms c C13_table_marksInTransaction

/-- **C13 (durable once acknowledged).** A batch answered `Ok` is in the committed database, which is
    what every later batch starts from, what a crash at any later point leaves at least, and what a
    restart reads. (Survival of a committed transaction across the death of the process is SQLite's, assumed.) -/
theorem C13_acknowledged_is_committed (D : Defects) (s : Sys) (ms : List Msg) (f : Option Fault)
    (hv : ∀ m ∈ ms, m.Valid) (hok : Ack.ok ∈ (processBatch Table.ofGen D s ms f).2)
    (ms' : List Msg) (c : CrashPoint) :
    let s' := (processBatch Table.ofGen D s ms f).1
    s'.db = commitBatch Table.ofGen s.db ms ∧
    ((crashBatch Table.ofGen s'.db ms' c).1 = s'.db ∨
      (crashBatch Table.ofGen s'.db ms' c).1 = commitBatch Table.ofGen s'.db ms') := by
  have h := (C13_ok_only_after_commit D s ms f hv).2 hok
  exact ⟨by rw [h.1], (C13_atomic_crash _ ms' c).1⟩

/-- **C13 (iii).** From the initial state, after any sequence of batches with any faults, crashes at any
    point followed by a restart, and recomputation requests — for the code as it is — every log entry
    that is not flagged agrees with the stored content of its day (count and digest) and every day with
    content has an entry: the marks were committed in the same step as the data they describe. -/
theorem C13_log_invariant (D : Defects) (ops : List Op) (hv : ∀ op ∈ ops, op.Valid) :
    LogInv (run Table.ofGen D init ops).db :=
  run_logInv Table.ofGen D ops init (fun op ho => (allRollback_ofGen (hv op ho)).noSwallow)
    C13_table_marksInTransaction (fun op ho m hm => (hv op ho m hm).2) init_logInv

/-- **C13 (iii), repair.** After any such history, a crash at ANY point of ANY further batch followed by
    the start-up recomputation leaves a log that is exactly the log of the stored content: nothing
    flagged, every count and digest right, every day with content present. -/
theorem C13_log_repaired_after_crash (D : Defects) (ops : List Op) (hv : ∀ op ∈ ops, op.Valid)
    (ms : List Msg) (hm : ∀ m ∈ ms, m.Valid) (c : CrashPoint) :
    LogClean (restart (crashBatch Table.ofGen (run Table.ofGen D init ops).db ms c).1).db :=
  restart_clean (crashBatch_logInv Table.ofGen _ ms c C13_table_marksInTransaction
    (fun m h => (hm m h).2) (C13_log_invariant D ops hv))

/-- the same after a plain restart (no batch in flight) -/
theorem C13_log_repaired_after_restart (D : Defects) (ops : List Op) (hv : ∀ op ∈ ops, op.Valid) :
    LogClean (restart (run Table.ofGen D init ops).db).db :=
  restart_clean (C13_log_invariant D ops hv)

/-! ### (iv) the writer is ready for the next batch — was false before the fix 6475b84 in /repo -/

/-- **C13 (iv).** With a ROLLBACK after a failed marks write and after a failed COMMIT (`Defects.none`)
    the connection is idle after every batch of every run. -/
theorem C13_idle_after_every_batch (ops : List Op) (hv : ∀ op ∈ ops, op.Valid) :
    (run Table.ofGen Defects.none init ops).conn.txn = none :=
  run_idle Table.ofGen Defects.none ops init (fun op ho => allRollback_ofGen (hv op ho)) rfl (Or.inl rfl)

/-- **C13 (iv) for the code as it is** (since the fix: `Defects.asImplemented = Defects.none`, which
    `C13_table_defectsAsInSource` checks against the regenerated table on every run). -/
theorem C13_idle_after_every_batch_asImplemented (ops : List Op) (hv : ∀ op ∈ ops, op.Valid) :
    (run Table.ofGen Defects.asImplemented init ops).conn.txn = none :=
  C13_idle_after_every_batch ops hv

/- The two witnesses are stated for the switch itself, not for `Defects.asImplemented`, whose switches are
   off since the fix 6475b84 (`C13_table_defectsAsInSource` checks that against the source). -/

def witnessBatch : List Msg := [{ kind := .mutation, stmts := [.put 1 1 1] }]
def nextBatch : List Msg := [{ kind := .write, stmts := [.aux (.conf 1)] }]

/-- **C13_breaks_marksFailureLeavesTxnOpen** (DESIGN §4 site 15; the code before the fix, and what the
    check reports again if the ROLLBACK is removed). The marks write of a batch fails:
    the batch is answered `Err` and nothing is visible (atomicity holds), but the transaction stays
    open, and the next batch — any batch — fails at BEGIN. -/
theorem C13_breaks_marksFailureLeavesTxnOpen :
    let D : Defects := { Defects.none with marksFailureLeavesTxnOpen := true }
    let r := processBatch Table.ofGen D init witnessBatch (some .marks)
    r.2 = [.err] ∧ r.1.db = init.db ∧ r.1.conn.txn.isSome = true ∧
    processBatch Table.ofGen D r.1 nextBatch none = (r.1, [.err]) := by decide +kernel

/-- **C13_breaks_commitFailureLeavesTxnOpen** (site 15). The same after a COMMIT that fails and leaves
    the transaction active. -/
theorem C13_breaks_commitFailureLeavesTxnOpen :
    let D : Defects := { Defects.none with commitFailureLeavesTxnOpen := true }
    let r := processBatch Table.ofGen D init witnessBatch (some .commit)
    r.2 = [.err] ∧ r.1.db = init.db ∧ r.1.conn.txn.isSome = true ∧
    processBatch Table.ofGen D r.1 nextBatch none = (r.1, [.err]) := by decide +kernel

/-- once that has happened, EVERY later batch of the instance fails and changes nothing, until the process
    is restarted. (`run_wedged`: so do recomputation requests and `Op.crash`, which the model runs as a batch
    failing at BEGIN when a transaction is open — a run has no step that reopens the folder in that state.) -/
theorem C13_wedged_until_restart (D : Defects) (s : Sys) (w : Db) (h : s.conn.txn = some w) (ops : List Op)
    (hb : ∀ op ∈ ops, ∃ ms f, op = .batch ms f) : run Table.ofGen D s ops = s :=
  run_wedged Table.ofGen D s h ops

/-- **C13_partial.** Whatever the two switches (in particular for the code before the fix): if no batch
    of the run suffers a failure of the marks write or of COMMIT, the connection is idle after every
    batch. (What is missing compared with the full statement: exactly those two fault points.) -/
theorem C13_partial (D : Defects) (ops : List Op) (hv : ∀ op ∈ ops, op.Valid) (hg : ∀ op ∈ ops, op.noLateFault) :
    (run Table.ofGen D init ops).conn.txn = none :=
  run_idle Table.ofGen D ops init (fun op ho => allRollback_ofGen (hv op ho)) rfl (Or.inr hg)

/-! ### why the side conditions matter: a marks write outside the transaction breaks (iii) -/

/-- If the marks were written after COMMIT (not the code as it is), a crash between the two would leave
    an entry that is not flagged and disagrees with the content: day 0 still says 1 entry after row 0
    moved to day 1, and day 1 has content but no entry. -/
theorem C13_marksOutsideTransaction_breaks :
    let T' : Table := { Table.ofGen with marksInTxn := false }
    let db' := (crashBatch T' init.db [{ kind := .mutation, stmts := [.put 0 5 1] }] .beforeMarks).1
    (∃ e ∈ db'.log, e.dirty = false ∧ e.count ≠ count db' e.day) ∧
    (0 < count db' 1 ∧ ∀ e ∈ db'.log, e.day ≠ 1) := by decide +kernel

-- a valid mixed batch: rows, a deletion, peer rows, a reference, a room, a recomputation in the middle
def sampleBatch : List Msg :=
  [{ kind := .mutation, stmts := [.put 1 1 1, .put 0 7 1] }, { kind := .nodes, stmts := [.put 2 1 1] },
   { kind := .computeDailyLog, stmts := [.recompute] }, { kind := .deletion, stmts := [.del 0 2 true] },
   { kind := .edges, stmts := [.aux (.edge 1 2)] }, { kind := .roomMutation, stmts := [.aux (.room 1)] }]

-- it commits: all Ok, three days flagged, the rows and the tombstone are there
example : let r := processBatch Table.ofGen Defects.asImplemented init sampleBatch none
    r.2 = replies .ok sampleBatch ∧ r.1.db.rows.length = 2 ∧ r.1.db.tombs = [(0, 2)] ∧
    (r.1.db.log.filter (·.dirty)).map (·.day) = [0, 2, 1] := by decide +kernel

-- a statement error in the fourth group: all Err, nothing visible, connection idle
example : processBatch Table.ofGen Defects.asImplemented init sampleBatch (some (.stmt 3 0))
    = (init, replies .err sampleBatch) := by decide +kernel

-- a crash after COMMIT keeps the whole batch, and the restart recomputes the three days (day 0 holds nothing any
-- more: its entry is removed)
example : let db' := (crashBatch Table.ofGen init.db sampleBatch .beforeAck).1
    db' = commitBatch Table.ofGen init.db sampleBatch ∧
    ((restart db').db.log.map fun e => (e.day, e.count, e.dirty)) = [(2, 1, false), (1, 2, false)] := by
  decide +kernel

-- the guard of C13_partial is satisfiable by a run with a statement fault and a crash
example : ∀ op ∈ [Op.batch sampleBatch (some (.stmt 0 1)), Op.crash sampleBatch .beforeCommit, Op.recompute],
    op.noLateFault := by
  intro op h
  simp only [List.mem_cons, List.mem_nil_iff, or_false] at h
  rcases h with rfl | rfl | rfl <;> simp [Op.noLateFault]

end Discret.Writer
