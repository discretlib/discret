import DiscretModel.Model.Admission
import DiscretModel.Model.Peg
import DiscretModel.Gen.Grammar
import DiscretModel.Gen.FrameSites
/-
C14 — no input crashes, wedges or confuses an instance.

What a theorem carries here (DESIGN.md §6 C14): four finite or table-shaped clauses. Everything that
executes requests on the real code is exploration (see checks/C14.py), not proof.
  (1) the admission matrix: admitted ⇒ the binding step has a defined result;
  (2) key / signature import is total; thread pools and panicking requests; the day bounds of a date taken from a
      peer (`C14_day_bounds_total`) and the first frame of an accepted connection (`C14_first_frame_bounded`);
  (3) over the grammars regenerated from the .pest files (T3): identifiers the grammar accepts and the
      storage engine refuses as bare aliases;
  (4) over the table of `read_u32()` sites regenerated from endpoint.rs (T5): every frame length is
      bounded before it sizes an allocation.
-/
namespace Discret.Adm

/-- The theorems stated for `Defects.none` are about the code as implemented: the four switches are off in
    `Defects.asImplemented` (fixes e10cc1c, 8e31124, e1bf202, 10c32e2), and the binding and key-import steps
    look at nothing else of a `Defects`. -/
theorem C14_code_is_intended :
    Defects.asImplemented.jsonNullPanics = false ∧ Defects.asImplemented.emptyKeyPanics = false ∧
    Defects.asImplemented.dateRangePanics = false ∧ Defects.asImplemented.unboundedFirstFrame = false ∧
    (∀ ft pv, bind Defects.asImplemented ft pv = bind Defects.none ft pv) ∧
    (∀ first len, importVerifyingKey Defects.asImplemented first len = importVerifyingKey Defects.none first len) :=
  ⟨rfl, rfl, rfl, rfl, fun _ _ => rfl, fun _ _ => rfl⟩

theorem allPV_complete (pv : PV) : pv ∈ allPV := by
  rcases pv with _ | _ | _ | _ | ⟨_ | _, _ | _⟩ | ⟨_ | _⟩ | _ <;> decide

theorem allFT_complete (ft : FT) : ft ∈ allFT := by cases ft <;> decide

theorem allSrc_complete (s : Src) : s ∈ allSrc := by cases s <;> decide

theorem bind_ne_panic (d : Defects) (h : d.jsonNullPanics = false) (ft : FT) (pv : PV) : bind d ft pv ≠ .panic := by
  unfold bind
  split
  · split
    · split <;> simp
    · simp
    · simp [h]
  · split <;> simp

/-- **C14 (admitted ⇒ bound), intended behaviour.** For every field type, nullability, value class and
    both ways of giving the value: what `validate_params` / the mutation parser admit, the binding step
    stores or refuses with an error — it never panics. (The binding step panics on no value at all, admitted or
    not: the proof does not use the hypothesis.) -/
theorem C14_admitted_values_bind (src : Src) (ft : FT) (nullable : Bool) (pv : PV)
    (_h : admission src ft nullable pv = .admitted) : bind Defects.none ft pv ≠ .panic :=
  bind_ne_panic _ rfl ft pv

/-- the cells of the matrix where a value is admitted and the binding step then panics -/
def badCells (d : Defects) : List (Src × FT × Bool × PV) :=
  (allSrc.flatMap fun s => allFT.flatMap fun ft => [false, true].flatMap fun n => allPV.map fun pv => (s, ft, n, pv)).filter
    fun c => admission c.1 c.2.1 c.2.2.1 c.2.2.2 == .admitted && bind d c.2.1 c.2.2.2 == .panic

theorem mem_badCells (d : Defects) (src : Src) (ft : FT) (n : Bool) (pv : PV) :
    (src, ft, n, pv) ∈ badCells d ↔ admission src ft n pv = .admitted ∧ bind d ft pv = .panic := by
  cases n <;> simp [badCells, allSrc_complete, allFT_complete, allPV_complete]

/-- **C14_breaks_jsonNullPanics** (mutation_query.rs:286-297, candidate #6, confirmed on the real code:
    corpus/C14/json_null.ops; fixed by e10cc1c). Before the fix exactly two cells are bad: a null parameter
    and the literal `null` on a nullable `Json` field are admitted and `value.as_string().unwrap()` panics
    the reader thread. -/
theorem C14_breaks_jsonNullPanics :
    badCells Defects.beforeFixes = [(.var, .json, true, .null), (.lit, .json, true, .null)] ∧
    badCells Defects.none = [] := by decide +kernel

/-- **C14_partial** (the code before the fix). Outside the two cells above an admitted value never panics. -/
theorem C14_partial (src : Src) (ft : FT) (nullable : Bool) (pv : PV)
    (_h : admission src ft nullable pv = .admitted) (hg : ¬ (ft = .json ∧ pv = .null)) :
    bind Defects.beforeFixes ft pv ≠ .panic := by
  intro hp
  have := (mem_badCells _ src ft nullable pv).mpr ⟨_h, hp⟩
  rw [C14_breaks_jsonNullPanics.1] at this
  simp at this
  exact hg (by rcases this with h | h <;> exact ⟨h.2.1, h.2.2.2⟩)

/-- **C14 (an admitted parameter stays bound).** For every variable type of a system field and every value
    class: when `validate_params` admits the value it puts a value back into the parameter map, so the binding
    step (`params.get(var).unwrap()`) finds it; hence no request naming a system field panics, in a mutation or in
    a filter (`id`, `room_id` — the only nullable binary —, `cdate`, `mdate`, `_entity`, `_json`, `_binary`,
    `verifying_key`, `_signature`). -/
theorem C14_admitted_parameter_stays_bound :
    (∀ vt ∈ allVT, ∀ pv ∈ allPV, (validateParam vt pv).1 = .admitted → (validateParam vt pv).2.isSome = true) ∧
    (∀ c ∈ [Ctx.mutation, Ctx.filter], ∀ f ∈ allSysFields, ∀ pv ∈ allPV, sysRequest c f pv ≠ .panic) ∧
    sysRequest .mutation .roomId .null = .defined ∧ sysRequest .filter .roomId .null = .defined ∧
    sysRequest .mutation .id .null = .refused .notNullable := by decide +kernel

/-- the only panic of the key import: byte 0 of the empty string, read before the length check -/
theorem importVerifyingKey_panic (d : Defects) (first : Option Nat) (len : Nat) :
    importVerifyingKey d first len = .panic ↔ d.emptyKeyPanics = true ∧ first = none := by
  unfold importVerifyingKey
  cases first with
  | none => cases d.emptyKeyPanics <;> simp
  | some b =>
    by_cases h1 : (len != 33) = true <;> by_cases h2 : (b != keyTypeEd25519) = true <;>
      cases d.emptyKeyPanics <;> simp [h1, h2]

/-- **C14 (key import is total), intended behaviour** -/
theorem C14_key_import_total (first : Option Nat) (len : Nat) :
    importVerifyingKey Defects.none first len ≠ .panic :=
  fun h => nomatch ((importVerifyingKey_panic _ _ _).mp h).1

/-- **C14_breaks_emptyKeyPanics** (security.rs:78-83, candidate #7, confirmed: corpus/C14/empty_key.ops;
    fixed by 8e31124): before the fix the empty byte string panics; every other input is answered
    (`C14_key_partial`). -/
theorem C14_breaks_emptyKeyPanics : importVerifyingKey Defects.beforeFixes none 0 = .panic := by decide

theorem C14_key_partial (b len : Nat) : importVerifyingKey Defects.beforeFixes (some b) len ≠ .panic :=
  fun h => nomatch ((importVerifyingKey_panic _ _ _).mp h).2

/-- the signature import refuses exactly the lengths other than 64; that it has no panicking outcome is the type
    `SigOutcome`, which has none -/
theorem C14_signature_import_total (len : Nat) : importSignature len = .errLength ↔ len ≠ 64 := by
  unfold importSignature
  by_cases h : len = 64 <;> simp [h]

/-- **C14 (a pool survives fewer panics than it has threads).** With `threads` plain OS threads, each
    panicking request removing one for good, the pool still answers after `k` such requests iff the
    requests do not panic or `k < threads` — so `threads` null parameters (resp. empty keys) wedge an
    instance (resp. the verifier) before the fixes e10cc1c (resp. 8e31124), and none does with them. -/
theorem C14_pool_liveness (panics : Bool) (threads k : Nat) :
    poolAlive panics threads k = true ↔ (panics = false ∨ k < threads) := by
  unfold poolAlive
  cases panics <;> simp <;> omega

/-- **C14 (day bounds are total), intended behaviour**: whatever date a peer's request carries -/
theorem C14_day_bounds_total (t : Int) : dayBoundsPanics Defects.none t = false := by
  simp [dayBoundsPanics, Defects.none]

/-- **C14_breaks_dateRangePanics** (date_utils.rs:16-30, found by the serve engine, confirmed:
    corpus/C14/date_out_of_range.ops; fixed by e1bf202). Before the fix `i64::MAX`, `i64::MIN`, the last
    representable instant (its next day overflows) and one past each end of chrono's range panic the reader
    thread that computes the day bounds. -/
theorem C14_breaks_dateRangePanics :
    ∀ t ∈ [(9223372036854775807 : Int), -9223372036854775808, 8210266876799999, 8210266876800000, -8334601228800001],
      dayBoundsPanics Defects.beforeFixes t = true := by decide

/-- **C14_date_partial** (the code before e1bf202): a date inside chrono's range whose next day is inside too never panics -/
theorem C14_date_partial (t : Int) (h : dateInRange t = true) : dayBoundsPanics Defects.beforeFixes t = false := by
  simp [dayBoundsPanics, h]

open Discret.Peg in
/-- **C14 (reserved words are identifiers for the grammar).** Over the query grammar regenerated from
    `query.pest`: `group`, `order`, `index`, `table`, `select`, `from`, `where`, and the digit-first `1x`
    are accepted by the rule `identifier` (which is also the rule of aliases), and the storage engine does
    not accept them as bare aliases (`bareAliasOk`, the table re-validated on the engine by every run):
    candidate #29, confirmed on the real code (corpus/C14/sql_keywords.ops). `name1` is accepted by both. -/
theorem C14_identifier_admits_reserved_words :
    (∀ w ∈ [['g','r','o','u','p'], ['o','r','d','e','r'], ['i','n','d','e','x'], ['t','a','b','l','e'],
            ['s','e','l','e','c','t'], ['f','r','o','m'], ['w','h','e','r','e'], ['1','x'], ['G','r','o','u','p']],
      matchesAll Gen.queryGrammar 60 Gen.query_identifier w = some true ∧ bareAliasOk w = false) ∧
    (matchesAll Gen.queryGrammar 60 Gen.query_identifier ['n','a','m','e','1'] = some true ∧
      bareAliasOk ['n','a','m','e','1'] = true) ∧
    matchesAll Gen.queryGrammar 60 Gen.query_identifier ['a',' ','b'] = some false := by
  decide +kernel

theorem reservedAlias_lower : ∀ w ∈ reservedAlias, w.map lowerAscii = w := by decide +kernel

theorem bareAliasOk_of_reserved (w : List Char) (h : w.map lowerAscii ∈ reservedAlias) : bareAliasOk w = false := by
  cases w with
  | nil => rfl
  | cons c t => simp only [bareAliasOk, List.contains_iff_mem.mpr h, Bool.not_true, Bool.and_false]

/-- every reserved word of the table is refused as a bare alias (in any ASCII case: `bareAliasOk_of_reserved`) -/
theorem C14_reserved_words_refused : ∀ w ∈ reservedAlias, bareAliasOk w = false :=
  fun w hw => bareAliasOk_of_reserved w (by rw [reservedAlias_lower w hw]; exact hw)

/-- **C14 (first frame is bounded), intended behaviour**: a frame longer than `max_buffer_size` is refused -/
theorem C14_first_frame_bounded (len maxBuffer : Nat) (h : maxBuffer < len) :
    firstFrameAccepted Defects.none len maxBuffer = false := by
  simp [firstFrameAccepted, Defects.none]; omega

/-- **C14_breaks_unboundedFirstFrame** (endpoint.rs:353-355, candidate #29, confirmed on the real code with a
    QUIC client on localhost: corpus/C14/first_frame.ops; fixed by 10c32e2): before the fix the acceptor keeps
    a connection whose first frame announces 1 GiB with a 1 MiB buffer limit (and the process grows by that
    much before any authentication). -/
theorem C14_breaks_unboundedFirstFrame : firstFrameAccepted Defects.beforeFixes 0x40000000 0x100000 = true := by decide

/-- **C14 (every frame length is bounded).** Over the table of `read_u32()` sites regenerated from
    endpoint.rs (T5): each of the five lengths read from the wire is compared with a bound, and the reader
    leaves, before the length sizes an allocation or a slice (full statement since 10c32e2; before it the
    first frame of an accepted connection was the exception, see `C14_breaks_unboundedFirstFrame`). -/
theorem C14_frames_bounded :
    (∀ s ∈ Gen.frameSites, s.bounded = true ∧ s.use ≠ "?") ∧ Gen.frameSites.length = 5 := by decide +kernel

/-! ### non-vacuity -/

-- an admitted cell that is stored, and two refused ones
example : admission .var .json true (.str false true) = .admitted ∧ bind Defects.none .json (.str false true) = .stored ∧
    admission .var .b64 false (.str false true) = .invalidBase64 ∧ admission .lit .int false .float = .invalidFieldType := by decide

example : importVerifyingKey Defects.none (some 1) 33 = .reachesDalek ∧
    importVerifyingKey Defects.none none 0 = .errKeyLength := by decide

example : poolAlive true 4 3 = true ∧ poolAlive true 4 4 = false := by decide

example : dateInRange 0 = true ∧ dateInRange 1700000000000 = true ∧ dateInRange (-8334601228800000) = true ∧
    dateInRange (8210266876799999 - 86400000) = true := by decide

end Discret.Adm
