import DiscretModel.Lemmas.LocalWriteFixtures
import DiscretModel.Lemmas.RoomImport
/-
C01 — Local writes are applied only with the room's rights at that time.

Models: `Model/LocalWrite.lean` (plan of the mutation tree — any depth —, right checks, write, deletions) and
`Model/RoomBuild.lean` (`validate`: room mutations), over the room decision functions of `Model/Room.lean`.
The compiled model is run against the real functions on every check (`checks/C01.py`, harness `mode=fn`).

All statements hold for every list of room definitions (any history), every database content, caller, date
and operation. "The right at that time" is `Room.can … now …`; by past stability (`Room.past_stability`)
entries dated after `now` do not change it.
-/
namespace Discret.LocalWrite
open Discret.Room

/-- **C01 (rows).** After an accepted mutation, every row that was not in the database before — created,
    changed, moved or re-signed — is the new row of a change that passed the right check: the caller holds,
    at the date of the operation, the own-rows right if it creates the row or is the author of the stored
    row, the all-rows right otherwise, in the room the row is in afterwards and in the room it was in before
    (`Authorised`). The row is signed by the caller. -/
theorem C01_rows {rooms : List Room} {db db' : Db} {caller : Key} {now : Int} {m : Mut}
    (h : mutate Defects.none rooms db caller now m = .ok db') :
    ∀ r ∈ db'.rows, r ∉ db.rows →
      ∃ c, Authorised rooms caller now c ∧ c.entity = r.entity ∧ c.roomId = r.room ∧ r.author = caller ∧
        ∀ o, c.old = some o → db.getRow r.id r.entity = some o := by
  obtain ⟨cs, _, hp, _, _⟩ := mutate_ok h
  exact mutate_rows_authorised hp (Or.inl rfl) (Or.inl rfl) h

/-- **C01 (references).** Every reference present after an accepted mutation and not before is signed by the
    caller and stored at a row whose change passed the right check. -/
theorem C01_references {rooms : List Room} {db db' : Db} {caller : Key} {now : Int} {m : Mut}
    (h : mutate Defects.none rooms db caller now m = .ok db') :
    ∀ e ∈ db'.edges, e ∉ db.edges →
      e.author = caller ∧ ∃ c n, Authorised rooms caller now c ∧ c.node = some n ∧ e.src = n.id := by
  obtain ⟨cs, _, hp, _, _⟩ := mutate_ok h
  obtain ⟨l, hmap, rfl, hauth⟩ := mutate_authorised hp (Or.inl rfl) (Or.inl rfl) h
  intro e he hnot
  rcases applyAll_edges he with h1 | ⟨ct, hct, x, hx, rfl⟩
  · exact absurd h1 hnot
  · have hc : ct.1 ∈ cs := hmap ▸ List.mem_map_of_mem hct
    have hpl := plan_planned hp ct.1 hc
    refine ⟨rfl, ?_⟩
    -- a change that adds a reference writes its row
    cases hn : ct.1.node with
    | none => rw [(hpl.quiet hn).2] at hx; cases hx
    | some n => exact ⟨ct.1, n, hauth ct.1 hc (hn ▸ Option.some_ne_none n), hn, (hpl.src n hn).1 x hx⟩

/-- **C01 (node deletion).** An accepted deletion of a stored row needed the own-rows right (own row) or the
    all-rows right (foreign row) in the row's room at that date, and the right to edit every row that
    referenced the deleted one. -/
theorem C01_delete_node {rooms : List Room} {db db' : Db} {caller : Key} {now : Int} {handle : Nat} {entity : Ent}
    {row : Row} (hrow : db.getRow handle entity = some row)
    (h : deleteNode Defects.none rooms db caller now handle entity = .ok db') :
    (∀ rid, row.room = some rid →
      Allowed rooms caller now entity (if row.author = caller then .mutateSelf else .mutateAll) rid) ∧
    (∀ e ∈ db.edges, e.dest = handle → e.src ≠ handle → mayTouch rooms db caller now e.src = true) := by
  obtain ⟨hinc, hroom, _⟩ := deleteNode_accepted hrow h
  exact ⟨hroom, hinc rfl⟩

/-- **C01 (reference deletion).** An accepted deletion of an existing reference needed, in the room of its
    source row, the own-rows right when both the reference and the row are the caller's, the all-rows right
    otherwise; the deletion of a reference that does not exist changes nothing. -/
theorem C01_delete_ref {rooms : List Room} {db db' : Db} {caller : Key} {now : Int} {handle : Nat} {entity : Ent}
    {label dest : Nat} {row : Row} (hrow : db.getRow handle entity = some row)
    (h : deleteRef Defects.none rooms db caller now handle entity label dest = .ok db') :
    (db.edges.find? (fun e => e.src = handle && e.label = label && e.dest = dest) = none → db' = db) ∧
    (∀ edge rid, db.edges.find? (fun e => e.src = handle && e.label = label && e.dest = dest) = some edge →
      row.room = some rid →
      Allowed rooms caller now entity
        (if edge.author = caller ∧ row.author = caller then .mutateSelf else .mutateAll) rid) := by
  constructor
  · intro hnone
    rw [deleteRef_absent hrow hnone rfl] at h
    cases h; rfl
  · intro edge rid hedge hr
    have hb : (deleteRef Defects.none rooms db caller now handle entity label dest).toBool = true := by rw [h]; rfl
    rw [deleteRef_toBool hrow hr hedge] at hb
    have := canB_iff.mp hb
    simp only [Defects.none, Bool.false_eq_true, if_false, Bool.and_eq_true, decide_eq_true_eq] at this
    exact this

/-- one API call: a refused operation leaves the database unchanged -/
def step (df : Defects) (rooms : List Room) (db : Db) (caller : Key) (now : Int) (m : Mut) : Db × Bool :=
  match mutate df rooms db caller now m with
  | .ok db' => (db', true)
  | .error _ => (db, false)

/-- **C01 (refusal).** A refused mutation leaves the database unchanged — with or without the defects. This holds by
    the shape of the model: `mutate` plans, validates the whole plan and only then writes (`applyAll`), so an error
    carries no database and `step` keeps the one it had. -/
theorem C01_refused_unchanged (df : Defects) (rooms : List Room) (db : Db) (caller : Key) (now : Int) (m : Mut)
    (h : (step df rooms db caller now m).2 = false) : (step df rooms db caller now m).1 = db := by
  unfold step at h ⊢
  split
  · rename_i db' hm; rw [hm] at h; cases h
  · rfl

open Discret.RoomBuild in
/-- **C01 (room mutation, existing room).** The caller of an accepted mutation of an existing room is admin
    of that room at the date of the mutation, before the mutation is applied. (The code is stricter than the
    property, which would also let a group's user admin add users.) -/
theorem C01_room_mutation_existing {df : RoomBuild.Defects} {mem : Option Room} {caller : Key} {m : MutSpec} {room' : Room}
    (hnew : m.isNew = false) (h : validate df mem caller m = .ok room') :
    ∃ r, mem = some r ∧ r.isAdmin caller m.date = true := by
  obtain ⟨r, _, _, hstart, _⟩ := validate_ok h
  rcases hstart with ⟨hn, _⟩ | ⟨_, hm, hadm⟩
  · rw [hnew] at hn; cases hn
  · exact ⟨r, hm, hadm⟩

open Discret.RoomBuild in
/-- **C01 (room mutation, admins).** Whenever an accepted room mutation adds an admin entry, the caller is
    admin of the room as it stands after the mutation (a creator must list itself). -/
theorem C01_room_mutation_admins {df : RoomBuild.Defects} {mem : Option Room} {caller : Key} {m : MutSpec} {room' : Room}
    (hadm : m.admins ≠ []) (h : validate df mem caller m = .ok room') : room'.isAdmin caller m.date = true := by
  obtain ⟨_, _, need, _, _, hgs, hchk⟩ := validate_ok h
  -- the flag `need_room_admin` starts `true` (an admin entry is added) and only grows
  have hstart : (!m.admins.isEmpty) = true := by
    cases hm : m.admins with
    | nil => exact absurd hm hadm
    | cons _ _ => rfl
  rw [hstart] at hgs
  exact hchk (validateGroups_need_true hgs)

open Discret.RoomBuild in
/-- **C01 (room mutation, groups of other rooms).** A `sys.Authorisation` entity named by id inside a mutation of a
    room — an existing row — that is not one of THAT room's groups (the group of another room, for instance) makes
    `validate_authorisation_mutation` refuse the mutation (`NotBelongsTo`), whoever the caller is. -/
theorem C01_room_mutation_foreign_group {df : RoomBuild.Defects} {caller : Key} {d : Int} {room : Room} {g : GroupSpec}
    (hold : g.isNew = false) (habs : room.getAuth g.gid = none) :
    validateGroup df caller d room g = .error .notBelongs :=
  validateGroup_foreign hold habs

open Discret.RoomBuild in
/-- **C01 (room mutation, only the mutated room's groups).** Every group an ACCEPTED room mutation names as an existing
    one is a group of the room being mutated (as it stands when the group is reached), or a group created earlier in
    the same mutation: no entry is ever hung under the group of another room. -/
theorem C01_room_mutation_groups_belong {df : RoomBuild.Defects} {caller : Key} {d : Int} {gs : List GroupSpec}
    {r r' : Room} {need need' : Bool} (h : validateGroups df caller d r need gs = .ok (r', need')) :
    ∀ g ∈ gs, g.isNew = false → (r.getAuth g.gid).isSome = true ∨ ∃ g' ∈ gs, g'.isNew = true ∧ g'.gid = g.gid :=
  validateGroups_belongs h

open Discret.RoomBuild in
/-- **C01 (room mutation, other rooms untouched).** An accepted mutation of room `m.rid` changes neither the stored
    definition nor the in-memory definition of any OTHER room of the instance: the definition of a room changes only
    through a mutation of that room — whose caller is one of its admins (`C01_room_mutation_existing`). -/
theorem C01_room_mutation_other_rooms {df : RoomBuild.Defects} {s s' : Site} (hi : SiteInv s) {caller : Key} {n : Nat}
    {m : MutSpec} (h : s.mutate df caller n m = .ok s') {rid : Id} (hne : rid ≠ m.rid) :
    s'.getStored rid = s.getStored rid ∧ s'.getMem rid = s.getMem rid :=
  mutate_other_rooms hi h hne

-- an authorised nested update: member 2 (all-rows) rewrites its row 0 under its unchanged row 1
example : (mutate Defects.none rooms01 db0 2 4
    (.mk 1 false 1 none none (.arr 0 [.mk 0 false 1 none (some 7) .none]))).toBool = true := by
  decide +kernel

-- an authorised four-level creation with rooms inherited and overridden on the way down: member 3 (own-rows right
-- in room 0, all-rows right in room 1) creates rows 20, 21 in room 0 and rows 22, 23 in room 1
example : (match mutate Defects.none rooms01 db0 3 4 deepCreate with
    | .ok db' => (db'.rows.filter fun r => 20 ≤ r.id).map fun r => (r.id, r.room, r.author)
    | .error _ => []) = [(20, some 0, 3), (21, some 0, 3), (22, some 1, 3), (23, some 1, 3)] := by
  decide +kernel

-- the same tree by member 2, who has no right in room 1: refused as a whole, although the first two levels are allowed
example : (mutate Defects.none rooms01 db0 2 4 deepCreate).toBool = false ∧
    (mutate Defects.none rooms01 db0 2 4
      (.mk 20 true 1 (some 0) (some 1) (.arr 0 [.mk 21 true 1 none (some 2) .none]))).toBool = true := by
  decide +kernel

-- an authorised move: member 3 creates a row in room 0 (own-rows) and moves it to room 1
example : (mutate Defects.none rooms01
    { db0 with rows := db0.rows ++ [⟨5, 1, some 0, 3, 3, 3, 9⟩] } 3 4
    (.mk 5 false 1 (some 1) (some 7) .none)).toBool = true := by decide +kernel

/-! ### with a defect the full statement is false

Each witness turns ONE switch on over the intended behaviour (so that it stays valid when `Defects.asImplemented`
changes after a fix in /repo). -/

/-- **C01_breaks_subNodesSkipped (#1).** Key 5 has no right in room 0 (`can … = false`); its direct update of
    row 0 is refused; nested under the unchanged row 1 the same update is accepted and row 0 is now signed
    by key 5. With the switch off it is refused. -/
theorem C01_breaks_subNodesSkipped :
    room0.can 5 1 4 .mutateAll = false ∧ room0.can 5 1 4 .mutateSelf = false ∧
    (mutate { Defects.none with subNodesSkipped := true } rooms01 db0 5 4
      (.mk 0 false 1 none (some 66) .none)).toBool = false ∧
    authorOf (mutate { Defects.none with subNodesSkipped := true } rooms01 db0 5 4 nestedByOutsider) 0 = some 5 ∧
    (mutate Defects.none rooms01 db0 5 4 nestedByOutsider).toBool = false := by
  decide +kernel

/-- **C01_breaks_subNodesSkipped, two levels down.** The same defect reaches any depth: below the unchanged row 1
    and the unchanged row 0, the outsider 5 rewrites row 8, which is then signed by key 5. With the switch off the
    mutation is refused. -/
theorem C01_breaks_subNodesSkipped_deep :
    authorOf (mutate { Defects.none with subNodesSkipped := true } rooms01 db3 5 4 deepByOutsider) 8 = some 5 ∧
    (mutate Defects.none rooms01 db3 5 4 deepByOutsider).toBool = false := by
  decide +kernel

/-- **C01_breaks_oldRoomLookup (#2).** Member 3 has only the own-rows right in room 0 and the all-rows right
    in room 1: it cannot update the foreign row 0 in place, but it can move it to room 1 (the departing room
    is looked up with the destination id). With the switch off the move is refused. -/
theorem C01_breaks_oldRoomLookup :
    room0.can 3 1 4 .mutateAll = false ∧
    (mutate { Defects.none with oldRoomLookup := true } rooms01 db0 3 4
      (.mk 0 false 1 none (some 5) .none)).toBool = false ∧
    (mutate { Defects.none with oldRoomLookup := true } rooms01 db0 3 4
      (.mk 0 false 1 (some 1) (some 5) .none)).toBool = true ∧
    (mutate Defects.none rooms01 db0 3 4
      (.mk 0 false 1 (some 1) (some 5) .none)).toBool = false := by
  decide +kernel

/-- **C01_breaks_refDeletionResign (#3).** The outsider 5 "deletes" a reference that does not exist: row 0 is
    re-dated and re-signed by key 5. With the switch off nothing changes. -/
theorem C01_breaks_refDeletionResign :
    authorOf (deleteRef { Defects.none with refDeletionResign := true } rooms01 db0 5 4 0 1 0 1) 0 = some 5 ∧
    (match deleteRef Defects.none rooms01 db0 5 4 0 1 0 1 with
      | .ok db' => decide (db' = db0) | .error _ => false) = true := by
  decide +kernel

/-- **C01_breaks_refRightOnEdgeAuthor (#3, second half; fixed in /repo: 301f3d3).** Member 3 holds the own-rows right only.
    It deletes the reference it once added at the foreign row 1: the right is judged on the reference's author
    (own reference: own-rows right suffices) and row 1, which belongs to member 2, is re-dated and re-signed by
    key 3. With the switch off the all-rows right is required and the deletion is refused. -/
theorem C01_breaks_refRightOnEdgeAuthor :
    room0.can 3 1 4 .mutateAll = false ∧
    authorOf (deleteRef { Defects.none with refRightOnEdgeAuthor := true } rooms01 db2 3 4 1 1 0 0) 1 = some 3 ∧
    (deleteRef Defects.none rooms01 db2 3 4 1 1 0 0).toBool = false := by decide +kernel

/-- **C01_breaks_incomingRefsUnchecked.** The outsider 5 deletes the room-less row 7: the reference stored at
    row 1 of room 0 — which key 5 may not edit — disappears with it. With the switch off the deletion is refused. -/
theorem C01_breaks_incomingRefsUnchecked :
    mayTouch rooms01 db1 5 4 1 = false ∧
    (match deleteNode { Defects.none with incomingRefsUnchecked := true } rooms01 db1 5 4 7 1 with
      | .ok db' => db'.edges.any (fun e => e.src = 1 && e.dest = 7) | .error _ => true) = false ∧
    (deleteNode Defects.none rooms01 db1 5 4 7 1).toBool = false := by
  decide +kernel

/-- **C01_breaks_sysRefDeletionUnguarded (#32).** Any key — here 5, unknown to the room — removes an admin
    reference of a room (entries 10 and 11, room row signed by admin 1) and becomes the author of the room
    row: an authorisation row changes outside a room mutation. With the switch off the deletion is refused.
    (Replayed on the real code: corpus/C01/sys-ref-deletion-unguarded.ops.) -/
theorem C01_breaks_sysRefDeletionUnguarded :
    deleteRoomAdminRef { Defects.none with sysRefDeletionUnguarded := true } 1 [10, 11] 5 10 = .ok (5, [11]) ∧
    deleteRoomAdminRef Defects.none 1 [10, 11] 5 10 = .error .deleteNotAllowed := ⟨rfl, rfl⟩

/-- the mutation has none of the shapes that #1 and #2 mishandle: no row changes below a row of the tree that stays
    unchanged (at any depth), and no row changes room -/
def Guard (cs : List Change) : Prop :=
  (∀ c ∈ cs, c.shadowed = true → c.node = none) ∧ ∀ c ∈ cs, NoMove c

/-- **C01_partial (any switches).** For a mutation tree of any depth whose plan satisfies `Guard` — no entity
    whose row changes lies below an entity whose row does not (excludes #1), and no row changes room (excludes #2) —
    the code writes only rows whose change passed the right check, whatever the switches are (`df` arbitrary, in
    particular `Defects.asImplemented`). Missing with respect to the full statement: the nested sub-entity under an
    unchanged parent, room moves, reference deletions (#3), deletions of referenced rows, and the reference deletion
    on `sys.Room` (#32), all shown false above or by replay (`corpus/C01`). (#1, #2, #3 and #32 are fixed in /repo;
    the replays stay as regression cases.) -/
theorem C01_partial (df : Defects) {rooms : List Room} {db db' : Db} {caller : Key} {now : Int} {m : Mut}
    {cs : List Change} (hp : plan db now m = .ok cs) (hg : Guard cs)
    (h : mutate df rooms db caller now m = .ok db') :
    ∀ r ∈ db'.rows, r ∉ db.rows →
      ∃ c, Authorised rooms caller now c ∧ c.entity = r.entity ∧ c.roomId = r.room ∧ r.author = caller := by
  intro r hr hnot
  obtain ⟨c, h1, h2, h3, h4, _⟩ := mutate_rows_authorised hp (Or.inr hg.1) (Or.inr hg.2) h r hr hnot
  exact ⟨c, h1, h2, h3, h4⟩

/-- **C01_partial_delete_node (any switches, in particular the code as it is).** Whatever the switches are, an accepted deletion of a stored row
    needed the own-rows right (own row) or the all-rows right (foreign row) in the row's room at that date, and its
    footprint is exactly: the row itself, the references stored AT it, and the references pointing TO it — no other
    row, no other reference changes. What is missing with respect to `C01_delete_node`: the right to edit the source
    rows of the references pointing to the deleted row (`C01_breaks_incomingRefsUnchecked`; no small repair, see
    findings/C01-node-deletion-incoming-references.md). -/
theorem C01_partial_delete_node (df : Defects) {rooms : List Room} {db db' : Db} {caller : Key} {now : Int}
    {handle : Nat} {entity : Ent} {row : Row} (hrow : db.getRow handle entity = some row)
    (h : deleteNode df rooms db caller now handle entity = .ok db') :
    (∀ rid, row.room = some rid →
      Allowed rooms caller now entity (if row.author = caller then .mutateSelf else .mutateAll) rid) ∧
    db'.rows = db.rows.filter (fun r => r.id ≠ handle) ∧
    db'.edges = db.edges.filter (fun e => e.src ≠ handle && e.dest ≠ handle) :=
  (deleteNode_accepted hrow h).2

/-- the mutated entity itself is never below an unchanged row: the first clause of `Guard` only constrains the
    sub-entities -/
theorem C01_guard_root {db : Db} {now : Int} {m : Mut} {cs : List Change} (hp : plan db now m = .ok cs) :
    ∃ top rest, cs = top :: rest ∧ top.shadowed = false := by
  obtain ⟨top, rest, h1, h2, _⟩ := plan_root hp
  exact ⟨top, rest, h1, h2⟩

-- the guard is satisfiable by a non-trivial mutation of the code as it is: member 2 updates its row 1 and,
-- nested under it, its row 0 and, below that one, its row 8 (three levels)
example : ∃ cs,
    plan db3 4 (.mk 1 false 1 none (some 8) (.arr 0 [.mk 0 false 1 none (some 7) (.arr 0 [.mk 8 false 1 none (some 6) .none])]))
      = .ok cs ∧ cs.length = 3 ∧ (cs.all fun c => c.node.isSome && !c.shadowed) = true := by
  exact ⟨_, rfl, by decide +kernel⟩

end Discret.LocalWrite
