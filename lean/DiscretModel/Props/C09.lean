import DiscretModel.Lemmas.DailyLogRun
import DiscretModel.Lemmas.DailyLogLazy
import DiscretModel.Lemmas.DailyLogWindow
import DiscretModel.Lemmas.SyncMarks
import DiscretModel.Lemmas.DailyLogUnrefs
import DiscretModel.Lemmas.Date
/-
C09 — the daily log is a function of the stored content, nothing else.

Model: `Model/DailyLog.lean` (marks, `DailyLogsUpdate::compute`), `Model/Sync.lean` (the writes and their marks).
`IsLogOf sigs log` is the specification: one group per `(room, entity)` with content, one row per day with
content carrying the entry count, the hash of the sorted signatures, and the chained history
`history(d₁) = daily(d₁)`, `history(dₖ₊₁) = H(history(dₖ) ++ daily(dₖ))`.
All statements quantify over every content, every number of rooms / entities / days, every schedule.
-/
namespace Discret.DailyLog

/-! The statements, for every version of the code in which the three repairs of #20 and the window fix 079e672 are in
(`d.LogRepaired`); `Defects.none` is one, `Defects.asImplemented` is one. -/

/-- **C09 (recomputation barrier).** A table satisfying the invariant with no mark waiting to be written is turned
    by `compute` into exactly the log of the stored content. -/
theorem C09_barrier_of {d : Defects} (hd : d.LogRepaired) {sigs : Content} {log : Log} (h : WInv sigs noPending log) :
    IsLogOf sigs (recompute d sigs log) :=
  recompute_isLogOf hd h

/-- **C09 (invariant over any schedule).** Starting from an empty database, after ANY sequence of writes
    (each marking the days whose signatures it changes, or relying on marks already collected by its batch),
    end-of-batch mark writes and recomputations — processed at ANY point, also in the middle of a batch whose
    marks are not written yet — the invariant between content, table and pending marks holds. No bound on
    the schedule, the batches or where recomputation is asked. -/
theorem C09_invariant_of {d : Defects} (hd : d.LogRepaired) (steps : List Step) (hok : runOk d St.init steps) :
    WInv (run d St.init steps).sigs (pendOf (run d St.init steps).pend) (run d St.init steps).log :=
  run_winv hd steps init_winv hok

/-- **C09 (the log is a function of the content).** After any such schedule, once the batch is committed and
    the pending recomputation has run, the table is the log of the stored content: one row per
    `(room, entity, day)` that has content, with the entry count, the hash of the sorted signatures and the
    chained history hash computed from scratch. -/
theorem C09_log_of_content_of {d : Defects} (hd : d.LogRepaired) (steps : List Step) (hok : runOk d St.init steps) :
    IsLogOf (run d St.init steps).sigs (run d St.init (steps ++ [.commit, .compute])).log := by
  rw [run_append]
  exact C09_barrier_of hd
    (WInv_markAll (P' := noPending) (run d St.init steps).pend ((C09_invariant_of hd steps hok).mono fun _ _ _ x => Or.inr x))

/-- **C09 (injectivity of the specification).** Whatever produced them: two tables that are the logs of two
    contents are equal only if every `(room, entity, day)` stores the same signatures in both (as multisets), and
    two contents that agree in that sense have the same log. -/
theorem C09_logOf_injective {sigs sigs' : Content} {log log' : Log} (h : IsLogOf sigs log) (h' : IsLogOf sigs' log') :
    log = log' ↔ ∀ r e dd, (sigs r e dd).Perm (sigs' r e dd) :=
  ⟨fun e => h.injective (e ▸ h'), fun hc => (h.congr hc).unique h'⟩

/-- **C09 (equal content ⇔ equal logs, whatever order or batching produced them).** Two databases reached by two
    arbitrary schedules have identical tables, history hashes included, exactly when they store the same signatures
    for every `(room, entity, day)` (in any order; the hash is idealised as the identity on what it is fed). -/
theorem C09_equal_log_iff_equal_content_of {d : Defects} (hd : d.LogRepaired) (s1 s2 : List Step)
    (h1 : runOk d St.init s1) (h2 : runOk d St.init s2) :
    (run d St.init (s1 ++ [.commit, .compute])).log = (run d St.init (s2 ++ [.commit, .compute])).log ↔
      ∀ r e dd, ((run d St.init s1).sigs r e dd).Perm ((run d St.init s2).sigs r e dd) :=
  C09_logOf_injective (C09_log_of_content_of hd s1 h1) (C09_log_of_content_of hd s2 h2)

theorem Defects.none_logRepaired : Defects.none.LogRepaired := ⟨rfl, rfl, rfl, rfl⟩

/-- **C09 (recomputation barrier)**, intended behaviour. -/
theorem C09_barrier {sigs : Content} {log : Log} (h : WInv sigs noPending log) :
    IsLogOf sigs (recompute Defects.none sigs log) :=
  C09_barrier_of Defects.none_logRepaired h

/-- **C09 (invariant over any schedule)**, intended behaviour. -/
theorem C09_invariant (steps : List Step) (hok : runOk Defects.none St.init steps) :
    WInv (run Defects.none St.init steps).sigs (pendOf (run Defects.none St.init steps).pend)
      (run Defects.none St.init steps).log :=
  C09_invariant_of Defects.none_logRepaired steps hok

/-- **C09 (the log is a function of the content)**, intended behaviour. -/
theorem C09_log_of_content (steps : List Step) (hok : runOk Defects.none St.init steps) :
    IsLogOf (run Defects.none St.init steps).sigs
      (run Defects.none St.init (steps ++ [.commit, .compute])).log :=
  C09_log_of_content_of Defects.none_logRepaired steps hok

/-- **C09 (equal content ⇒ equal logs, whatever order or batching produced them)**, intended behaviour. -/
theorem C09_equal_content_equal_log (s1 s2 : List Step) (h1 : runOk Defects.none St.init s1)
    (h2 : runOk Defects.none St.init s2)
    (hc : ∀ r e d, ((run Defects.none St.init s1).sigs r e d).Perm ((run Defects.none St.init s2).sigs r e d)) :
    (run Defects.none St.init (s1 ++ [.commit, .compute])).log =
      (run Defects.none St.init (s2 ++ [.commit, .compute])).log :=
  (C09_equal_log_iff_equal_content_of Defects.none_logRepaired s1 s2 h1 h2).2 hc

/-- **C09 (different content ⇒ different logs)**, intended behaviour. -/
theorem C09_equal_log_equal_content (s1 s2 : List Step) (h1 : runOk Defects.none St.init s1)
    (h2 : runOk Defects.none St.init s2)
    (hl : (run Defects.none St.init (s1 ++ [.commit, .compute])).log =
      (run Defects.none St.init (s2 ++ [.commit, .compute])).log) :
    ∀ r e d, ((run Defects.none St.init s1).sigs r e d).Perm ((run Defects.none St.init s2).sigs r e d) :=
  (C09_equal_log_iff_equal_content_of Defects.none_logRepaired s1 s2 h1 h2).1 hl

/-- **C09_partial_daily (any version of the code).** Whatever the state of the table and of the cursor, and whichever
    way the window is read, every day that is MARKED and has content is recomputed to a row carrying the entry count and
    the daily hash of the content of that day; a marked day without content too when emptied days keep their row.
    Missing for the full statement: the history hash, days that were not marked although their content changed, and
    rows of emptied days (witnesses below). -/
theorem C09_partial_daily_of {d : Defects} (sigs : Content) (log : Log) :
    ∀ g ∈ log, ∀ r ∈ g.rows, r.dirty = true → (d.emptyDayRow = true ∨ sigs g.room g.ent r.day ≠ []) →
      ∃ g' ∈ recompute d sigs log, g'.room = g.room ∧ g'.ent = g.ent ∧
        ∃ r' ∈ g'.rows, r'.day = r.day ∧ r'.dirty = false ∧
          r'.count = (sigs g.room g.ent r.day).length ∧ r'.daily = dailyOf (sigs g.room g.ent r.day) :=
  recomputeFrom_dailyRight sigs log Cursor.init

/-- **C09_partial_daily (the code before the repairs of #20).** Whatever the state of the table and of the cursor,
    every day that is MARKED is recomputed to a row carrying the entry count and the daily hash of the content of
    that day. (For the code as it is the full statements below hold.) -/
theorem C09_partial_daily (sigs : Content) (log : Log) :
    ∀ g ∈ log, ∀ r ∈ g.rows, r.dirty = true →
      ∃ g' ∈ recompute Defects.beforeFixHistory sigs log, g'.room = g.room ∧ g'.ent = g.ent ∧
        ∃ r' ∈ g'.rows, r'.day = r.day ∧ r'.dirty = false ∧
          r'.count = (sigs g.room g.ent r.day).length ∧ r'.daily = dailyOf (sigs g.room g.ent r.day) :=
  fun g hg r hr hd => C09_partial_daily_of sigs log g hg r hr hd (Or.inl rfl)

/-! The code as it is: the repairs of #20 are ee022ec (the chain continues from the stored hashes of the day before the
first day to recompute), 55a691b (the chain of an entity never continues the chain of another entity) and 20e7aa6 (a day
that holds nothing any more has no row). -/

theorem Defects.asImplemented_logRepaired : Defects.asImplemented.LogRepaired := ⟨rfl, rfl, rfl, rfl⟩

/-- **C09 (recomputation barrier), the code as it is.** -/
theorem C09_barrier_asImplemented {sigs : Content} {log : Log} (h : WInv sigs noPending log) :
    IsLogOf sigs (recompute Defects.asImplemented sigs log) :=
  C09_barrier_of Defects.asImplemented_logRepaired h

/-- **C09 (invariant over any schedule), the code as it is.** -/
theorem C09_invariant_asImplemented (steps : List Step) (hok : runOk Defects.asImplemented St.init steps) :
    WInv (run Defects.asImplemented St.init steps).sigs (pendOf (run Defects.asImplemented St.init steps).pend)
      (run Defects.asImplemented St.init steps).log :=
  C09_invariant_of Defects.asImplemented_logRepaired steps hok

/-- **C09 (the log is a function of the content), the code as it is**: count, daily hash and history hash of every
    `(room, entity, day)` equal those computed from scratch over what is stored, no row for a day without content,
    after any schedule of marked writes, batches and recomputation points, once the pending recomputation has run. -/
theorem C09_log_of_content_asImplemented (steps : List Step) (hok : runOk Defects.asImplemented St.init steps) :
    IsLogOf (run Defects.asImplemented St.init steps).sigs
      (run Defects.asImplemented St.init (steps ++ [.commit, .compute])).log :=
  C09_log_of_content_of Defects.asImplemented_logRepaired steps hok

/-- **C09 (equal content ⇒ equal logs, whatever order or batching produced them), the code as it is.** -/
theorem C09_equal_content_equal_log_asImplemented (s1 s2 : List Step) (h1 : runOk Defects.asImplemented St.init s1)
    (h2 : runOk Defects.asImplemented St.init s2)
    (hc : ∀ r e d, ((run Defects.asImplemented St.init s1).sigs r e d).Perm
      ((run Defects.asImplemented St.init s2).sigs r e d)) :
    (run Defects.asImplemented St.init (s1 ++ [.commit, .compute])).log =
      (run Defects.asImplemented St.init (s2 ++ [.commit, .compute])).log :=
  (C09_equal_log_iff_equal_content_of Defects.asImplemented_logRepaired s1 s2 h1 h2).2 hc

/-- **C09 (different content ⇒ different logs), the code as it is.** -/
theorem C09_equal_log_equal_content_asImplemented (s1 s2 : List Step) (h1 : runOk Defects.asImplemented St.init s1)
    (h2 : runOk Defects.asImplemented St.init s2)
    (hl : (run Defects.asImplemented St.init (s1 ++ [.commit, .compute])).log =
      (run Defects.asImplemented St.init (s2 ++ [.commit, .compute])).log) :
    ∀ r e d, ((run Defects.asImplemented St.init s1).sigs r e d).Perm
      ((run Defects.asImplemented St.init s2).sigs r e d) :=
  (C09_equal_log_iff_equal_content_of Defects.asImplemented_logRepaired s1 s2 h1 h2).1 hl

/-- **C09 (the window of `compute` is modelled literally).** On a group whose rows are in day order (the primary key
    order, part of the invariant), the rows the model of the loop walks are exactly those the SQL text selects —
    `date >= IFNULL(max(date) before the first marked date, first marked date)`, nothing when no day is marked —
    and the rows it leaves alone are exactly the others. For every version of the code since 079e672. -/
theorem C09_window_is_sql_window {d : Defects} (hl : d.lazyScan = false) (sigs : Content) (c : Cursor) {g : Group}
    (hs : RowsSorted g.rows) :
    recomputeGroup d sigs c g =
      if (windowSql g.rows).isEmpty then (c, g)
      else ((walkRows d sigs g.room g.ent c (windowSql g.rows)).1,
            { g with rows := untouchedSql g.rows ++ (walkRows d sigs g.room g.ent c (windowSql g.rows)).2 }) :=
  recomputeGroup_sql hl sigs c hs

/-! Witnesses: the code before the repairs of #20 did not satisfy the full statement. -/

def k10 : Key := { room := 1, ent := 0, day := 0 }
def k11 : Key := { room := 1, ent := 0, day := 1 }
def k12 : Key := { room := 1, ent := 0, day := 2 }
def kp0 : Key := { room := 1, ent := 1, day := 0 }

/-- day 0 written and recomputed, then day 1 written and recomputed -/
def twoDays : List Step :=
  [.write (contentOf [(k10, 5)]) [k10], .commit, .compute,
   .write (contentOf [(k10, 5), (k11, 6)]) [k11], .commit, .compute]

/-- days 0 and 1 written in one go and recomputed together -/
def twoDaysAtOnce : List Step :=
  [.write (contentOf [(k10, 5), (k11, 6)]) [k10, k11], .commit, .compute]

/-- `twoDays` obeys the marking discipline (so the theorems above apply to it) -/
example : runOk Defects.none St.init twoDays :=
  ⟨contentOf_marks_ok [] _ _ (by decide +kernel), trivial, trivial,
    contentOf_marks_ok [(k10, 5)] _ _ (by decide +kernel), trivial, trivial, trivial⟩

/-- **C09_breaks_historySeedDropped** (#20). The same content written day by day or at once: that code reset
    the chain at the unmarked seed row, so the history of day 1 is NULL in one database and chained in the other. -/
theorem C09_breaks_historySeedDropped :
    (run Defects.none St.init twoDays).sigs = (run Defects.none St.init twoDaysAtOnce).sigs ∧
    (run { Defects.none with historySeedDropped := true } St.init twoDays).log ≠
      (run { Defects.none with historySeedDropped := true } St.init twoDaysAtOnce).log ∧
    (run Defects.none St.init twoDays).log = (run Defects.none St.init twoDaysAtOnce).log := by
  refine ⟨rfl, by decide +kernel, by decide +kernel⟩

/-- **C09_breaks_entityNotCompared** (#20). Two entities of one room recomputed together: the first marked row of
    the second entity is chained to the last row of the first entity instead of starting its own chain. -/
theorem C09_breaks_entityNotCompared :
    (run { Defects.none with entityNotCompared := true } St.init
        [.write (contentOf [(k10, 5), (kp0, 6)]) [k10, kp0], .commit, .compute]).log ≠
    (run Defects.none St.init [.write (contentOf [(k10, 5), (kp0, 6)]) [k10, kp0], .commit, .compute]).log := by
  decide +kernel

/-- **C09_breaks_emptyDayRow** (#20). A day whose last row is deleted keeps a log row (count 0, no daily hash): a
    database that once held a row that day and one that never did store the same content and different logs. -/
theorem C09_breaks_emptyDayRow :
    (run { Defects.none with emptyDayRow := true } St.init
        [.write (contentOf [(k10, 5)]) [k10], .commit, .compute, .write (contentOf []) [k10], .commit, .compute]).log ≠ [] ∧
    (run Defects.none St.init
        [.write (contentOf [(k10, 5)]) [k10], .commit, .compute, .write (contentOf []) [k10], .commit, .compute]).log = [] := by
  decide +kernel

/-- **C09_breaks_lazyScan** (found by the correspondence run, fixed in /repo by 079e672 — regression witness). With the
    `SELECT` of `compute` stepped while the loop updates the table, two fresh marked days recomputed together:
    the first is returned a second time and chained with itself; recomputed one by one it is not. Same
    content, different history hashes. -/
theorem C09_breaks_lazyScan :
    (run { Defects.none with lazyScan := true } St.init twoDaysAtOnce).log ≠
      (run Defects.none St.init twoDaysAtOnce).log ∧
    (run { Defects.none with lazyScan := true } St.init twoDays).log =
      (run Defects.none St.init twoDays).log := by
  decide +kernel

/-- **C09_breaks_lazyScan_stale** (regression witness, see above). Under the lazily evaluated `SELECT` an unmarked row after the last
    marked one is never returned: when day 0 changes, the history of day 1 keeps chaining the OLD day 0. -/
theorem C09_breaks_lazyScan_stale :
    (run { Defects.none with lazyScan := true } St.init
        (twoDays ++ [.write (contentOf [(k10, 7), (k11, 6)]) [k10], .commit, .compute])).log ≠
    (run Defects.none St.init
        (twoDays ++ [.write (contentOf [(k10, 7), (k11, 6)]) [k10], .commit, .compute])).log := by
  decide +kernel

/-- the code as it is, on the same two schedules: equal content, equal tables -/
example : (run Defects.asImplemented St.init twoDays).log = (run Defects.asImplemented St.init twoDaysAtOnce).log := by
  decide +kernel

/-- the code before the three repairs of #20, all switches on, on the same two schedules: equal content,
    different tables -/
theorem C09_breaks_beforeFixHistory :
    (run Defects.beforeFixHistory St.init twoDays).log ≠ (run Defects.beforeFixHistory St.init twoDaysAtOnce).log := by
  decide +kernel

/-! Non-vacuity: schedules that go through every branch of the repaired loop. -/

/-- days 0, 1, 2 of entity 0 and day 0 of entity 1, written and recomputed day by day; then the only row of day 0
    is deleted (the FIRST day of the group is emptied: the unmarked day 1 that follows must start the chain);
    then the only row of day 1 moves to day 2 (an emptied day with no seed row left before it: day 2 starts the
    chain) -/
def emptiedDays : List Step :=
  [.write (contentOf [(k10, 5)]) [k10], .commit, .compute,
   .write (contentOf [(k10, 5), (k11, 6), (kp0, 9)]) [k11, kp0], .commit, .compute,
   .write (contentOf [(k10, 5), (k11, 6), (kp0, 9), (k12, 7)]) [k12], .commit, .compute,
   .write (contentOf [(k11, 6), (kp0, 9), (k12, 7)]) [k10], .commit, .compute,
   .write (contentOf [(kp0, 9), (k12, 7), (k12, 8)]) [k11, k12], .commit, .compute]

/-- the same final content written in one batch -/
def emptiedDaysAtOnce : List Step :=
  [.write (contentOf [(kp0, 9), (k12, 7), (k12, 8)]) [kp0, k12]]

theorem emptiedDays_runOk (d : Defects) : runOk d St.init emptiedDays ∧ runOk d St.init emptiedDaysAtOnce := by
  have h : runOk Defects.none St.init emptiedDays := by
    refine ⟨?_, trivial, trivial, ?_, trivial, trivial, ?_, trivial, trivial, ?_, trivial, trivial, ?_, trivial,
      trivial, trivial⟩
    · exact contentOf_marks_ok [] _ _ (by decide +kernel)
    · exact contentOf_marks_ok [(k10, 5)] _ _ (by decide +kernel)
    · exact contentOf_marks_ok [(k10, 5), (k11, 6), (kp0, 9)] _ _ (by decide +kernel)
    · exact contentOf_marks_ok [(k10, 5), (k11, 6), (kp0, 9), (k12, 7)] _ _ (by decide +kernel)
    · exact contentOf_marks_ok [(k11, 6), (kp0, 9), (k12, 7)] _ _ (by decide +kernel)
  exact ⟨runOk_defects _ d _ rfl rfl h,
    runOk_defects Defects.none d _ rfl rfl ⟨contentOf_marks_ok [] _ _ (by decide +kernel), trivial⟩⟩

example : runOk Defects.none St.init emptiedDays := (emptiedDays_runOk _).1

example : runOk Defects.none St.init emptiedDaysAtOnce := (emptiedDays_runOk _).2

/-- … and, as `C09_equal_content_equal_log` says, both end with the same table: one row for day 2 of entity 0
    (two entries, history = daily: it is the first day left) and one for day 0 of entity 1; the emptied days 0
    and 1 have no row. Intermediate tables differ from the final one. -/
example :
    (run Defects.none St.init (emptiedDays ++ [.commit, .compute])).log =
      (run Defects.none St.init (emptiedDaysAtOnce ++ [.commit, .compute])).log ∧
    (run Defects.none St.init (emptiedDays ++ [.commit, .compute])).log =
      [{ room := 1, ent := 0, rows := [{ day := 2, count := 2, daily := some (.daily [7, 8]),
                                          hist := some (.daily [7, 8]), dirty := false }] },
       { room := 1, ent := 1, rows := [{ day := 0, count := 1, daily := some (.daily [9]),
                                          hist := some (.daily [9]), dirty := false }] }] ∧
    (run Defects.none St.init (emptiedDays.take 12)).log =
      [{ room := 1, ent := 0, rows := [{ day := 1, count := 1, daily := some (.daily [6]),
                                          hist := some (.daily [6]), dirty := false },
                                        { day := 2, count := 1, daily := some (.daily [7]),
                                          hist := some (.chain (.daily [6]) (.daily [6])), dirty := false }] },
       { room := 1, ent := 1, rows := [{ day := 0, count := 1, daily := some (.daily [9]),
                                          hist := some (.daily [9]), dirty := false }] }] := by
  decide +kernel

/-- the same for the code as it is -/
example :
    runOk Defects.asImplemented St.init emptiedDays ∧ runOk Defects.asImplemented St.init emptiedDaysAtOnce ∧
    (run Defects.asImplemented St.init (emptiedDays ++ [.commit, .compute])).log =
      (run Defects.asImplemented St.init (emptiedDaysAtOnce ++ [.commit, .compute])).log := by
  exact ⟨(emptiedDays_runOk _).1, (emptiedDays_runOk _).2, by decide +kernel⟩

/-- the code before the repairs ends the same schedule with rows for the emptied days and another history -/
example :
    (run Defects.beforeFixHistory St.init (emptiedDays ++ [.commit, .compute])).log ≠
      (run Defects.beforeFixHistory St.init (emptiedDaysAtOnce ++ [.commit, .compute])).log := by
  decide +kernel

end Discret.DailyLog

namespace Discret.Sync
open Discret.DailyLog

/-- **C09 (local writes of the model).** Creation, update, room move, reference addition, reference deletion and
    row deletion, planned on the state they are applied to, with the marks of `Defects.none`: the invariant
    holds again once the marks are written. (Row ids are unique in the replica.) -/
theorem C09_model_local_write (w : World) (cur : Replica) (hn : IdsNodup cur)
    (h : WInv cur.sigs noPending cur.log) (p : Nat) (op : WOp) :
    WInv (effectOf Defects.none w cur cur p op).cur.sigs noPending
      (markAll (effectOf Defects.none w cur cur p op).marks (effectOf Defects.none w cur cur p op).cur.log) :=
  effectOf_winv rfl w hn h p op

/-- **C09 (one deletion query with several reference-deletion entries, the code as it is).** `DeletionQuery::build`
    loops over the entries of the query; every entry that removes a reference re-dates its source row. With distinct
    source rows, planned on the state they are applied to, the marks of the model of the code cover the day every
    re-dated row leaves and the day it arrives on: the invariant holds again once the marks are written. -/
theorem C09_model_unrefs (rights : Rights) (cur : Replica) (hn : IdsNodup cur)
    (h : WInv cur.sigs noPending cur.log) (p now : Nat) (es : List UnrefEntry) (hrows : (es.map (·.row)).Nodup) :
    WInv (opUnrefs Defects.asImplemented rights cur cur p now es).cur.sigs noPending
      (markAll (opUnrefs Defects.asImplemented rights cur cur p now es).marks
        (opUnrefs Defects.asImplemented rights cur cur p now es).cur.log) :=
  opUnrefs_winv rfl rights hn h p now es hrows

/-- **C09 (synchronised row of the model).** Writing a fetched row over the locally stored version (`old`, of the
    same entity) with the marks of `Defects.none` keeps the invariant and the uniqueness of row ids. -/
theorem C09_model_synchronised_row (rights : Rights) (r : Replica) (hn : IdsNodup r)
    (h : WInv r.sigs noPending r.log) (n : Node) (old : Option Node) (ho : r.findId n.id = old)
    (hent : ∀ o, old = some o → o.ent = n.ent) :
    WInv (ingestNode Defects.none rights r n old).sigs noPending (ingestNode Defects.none rights r n old).log ∧
      IdsNodup (ingestNode Defects.none rights r n old) :=
  ⟨ingestNode_winv rfl rights hn h n old ho hent, ingestNode_idsNodup rights hn n old⟩

/-- **C09 (synchronised deletion records of the model).** Applying a batch of received deletion records with the
    marks of `Defects.none` keeps the invariant. -/
theorem C09_model_synchronised_deletions (rights : Rights) (r : Replica)
    (h : WInv r.sigs noPending r.log) (ts : List NTomb) :
    WInv (applyNTombs Defects.none rights r ts).sigs noPending (applyNTombs Defects.none rights r ts).log :=
  applyNTombs_winv rfl rights h ts

/-- **C09 (recomputation of the model).** … and a recomputation then yields the log of the stored content. -/
theorem C09_model_compute (r : Replica) (h : WInv r.sigs noPending r.log) :
    IsLogOf r.sigs (recompute Defects.none r.sigs r.log) :=
  C09_barrier h

/-- **C09 (recomputation of the model, the code as it is).** -/
theorem C09_model_compute_asImplemented (r : Replica) (h : WInv r.sigs noPending r.log) :
    IsLogOf r.sigs (recompute Defects.asImplemented r.sigs r.log) :=
  C09_barrier_asImplemented h

/-- **C09 (the code as it is marks every day it touches).** Since the fixes 8123d04, 1a9cbe6, 9b21e0a and 456214b the
    three statements above hold for `Defects.asImplemented` as well: every local write, every synchronised row and
    every synchronised deletion record of the model of the code marks the days whose content it changes; with
    `C09_model_compute_asImplemented` the recomputation that follows yields the log of the stored content. -/
theorem C09_model_marks_asImplemented :
    (∀ (w : World) (cur : Replica), IdsNodup cur → WInv cur.sigs noPending cur.log → ∀ (p : Nat) (op : WOp),
      WInv (effectOf Defects.asImplemented w cur cur p op).cur.sigs noPending
        (markAll (effectOf Defects.asImplemented w cur cur p op).marks
          (effectOf Defects.asImplemented w cur cur p op).cur.log)) ∧
    (∀ (rights : Rights) (r : Replica), IdsNodup r → WInv r.sigs noPending r.log →
      ∀ (n : Node) (old : Option Node), r.findId n.id = old → (∀ o, old = some o → o.ent = n.ent) →
      WInv (ingestNode Defects.asImplemented rights r n old).sigs noPending
        (ingestNode Defects.asImplemented rights r n old).log) ∧
    (∀ (rights : Rights) (r : Replica), WInv r.sigs noPending r.log → ∀ (ts : List NTomb),
      WInv (applyNTombs Defects.asImplemented rights r ts).sigs noPending
        (applyNTombs Defects.asImplemented rights r ts).log) :=
  ⟨fun w _ hn h p op => effectOf_winv rfl w hn h p op,
   fun rights _ hn h n old ho hent => ingestNode_winv rfl rights hn h n old ho hent,
   fun rights _ h ts => applyNTombs_winv rfl rights h ts⟩

def rowOf (w : World) (p : Nat) (k : Key) : Option (Nat × Bool) :=
  (findRow (w.peer p).log k).map fun x => (x.count, x.dirty)

/-- peer 0 creates rows 1 and 2 on day 0, peer 1 pulls; on day 1 peer 0 updates row 1; peer 1 pulls again -/
def crossDayTrace : List Op :=
  [.clock 1000, .write 0 (.new 1 1 0 1 11), .write 0 (.new 2 1 0 2 12), .compute 0, .pull 1 0 1,
   .clock 86401000, .write 0 (.upd 1 3 13 none), .compute 0, .pull 1 0 1]

/-- **C09_breaks_oldDayUnmarked** (#13, fixed in /repo by 8123d04 — kept as a regression witness). With the old
    day of a synchronised cross-day update left unmarked, peer 1's day 0 still says two entries although one
    row is left on that day; with the old day marked (the code now) it says one. -/
theorem C09_breaks_oldDayUnmarked :
    let w := World.run { Defects.asImplemented with oldDayUnmarked := true } (World.init [true, true]) crossDayTrace
    rowOf w 1 k10 = some (2, false) ∧ ((w.peer 1).sigs 1 0 0).length = 1 ∧
    rowOf (World.run Defects.asImplemented (World.init [true, true]) crossDayTrace) 1 k10 = some (1, false) := by
  decide +kernel

/-- row 1 created on day 0 with a reference to row 2 and recomputed; on day 1 that reference is deleted -/
def refDeletionTrace : List Op :=
  [.clock 1000, .write 0 (.new 1 1 0 1 11), .write 0 (.new 2 1 0 2 12), .write 0 (.ref 1 2 15), .compute 0,
   .clock 86401000, .write 0 (.unref 1 2 13 14), .compute 0]

/-- **C09_breaks_refDeletionUnmarked** (#3, fixed in /repo by 9b21e0a — regression witness). The reference deletion
    re-dates and re-signs row 1 (day 0 → day 1); with its days left unmarked day 0 still counts two entries and
    row 1 is not part of what day 1 hashes; with both days marked (the code now) every day shows its content. -/
theorem C09_breaks_refDeletionUnmarked :
    let w := World.run { Defects.asImplemented with refDeletionUnmarked := true } (World.init [true]) refDeletionTrace
    let w' := World.run Defects.asImplemented (World.init [true]) refDeletionTrace
    rowOf w 0 k10 = some (2, false) ∧ ((w.peer 0).sigs 1 0 0).length = 1 ∧
    rowOf w' 0 k10 = some (1, false) ∧ ((w'.peer 0).sigs 1 0 0).length = 1 ∧
    rowOf w' 0 k11 = some (((w'.peer 0).sigs 1 0 1).length, false) := by
  decide +kernel

/-- the same without the reference: the deletion names a reference that does not exist -/
def noRefDeletionTrace : List Op :=
  [.clock 1000, .write 0 (.new 1 1 0 1 11), .write 0 (.new 2 1 0 2 12), .compute 0,
   .clock 86401000, .write 0 (.unref 1 2 13 14), .compute 0]

/-- **C09_breaks_refDeletionTouchesRowWithoutRef** (#3, fixed in /repo by 456214b and 9b21e0a — regression witness).
    Before the fixes a reference deletion that removes nothing re-dated and re-signed the source row and marked
    nothing: day 0 still counts two entries, day 1 has content and no log row at all. The code now leaves the row
    where it is. -/
theorem C09_breaks_refDeletionTouchesRowWithoutRef :
    let w := World.run { Defects.asImplemented with refDeletionUnmarked := true, refDeletionTouchesRowWithoutRef := true }
      (World.init [true]) noRefDeletionTrace
    let w' := World.run Defects.asImplemented (World.init [true]) noRefDeletionTrace
    rowOf w 0 k10 = some (2, false) ∧ ((w.peer 0).sigs 1 0 0).length = 1 ∧
    rowOf w 0 k11 = none ∧ ((w.peer 0).sigs 1 0 1).length = 1 ∧
    rowOf w' 0 k10 = some (2, false) ∧ ((w'.peer 0).sigs 1 0 0).length = 2 ∧ ((w'.peer 0).sigs 1 0 1).length = 0 := by
  decide +kernel

/-- peer 1 holds a newer version (day 1) of a row that peer 0 deletes on day 2 at its day-0 version -/
def otherVersionTrace : List Op :=
  [.clock 1000, .write 0 (.new 1 1 0 1 11), .write 0 (.new 2 1 0 2 12), .compute 0, .pull 1 0 1,
   .clock 86401000, .write 1 (.upd 1 3 13 none), .write 1 (.new 3 1 0 4 15), .compute 1,
   .clock 172801000, .write 0 (.del 1 14), .compute 0, .pull 1 0 1]

/-- **C09_breaks_syncDeletionLocalDayUnmarked** (found by the model, fixed in /repo by 1a9cbe6 — regression
    witness). A synchronised deletion record removes peer 1's day-1 version; marking only the record's day 0
    and the deletion day 2 leaves day 1 counting two entries; with the local day marked (the code now) one. -/
theorem C09_breaks_syncDeletionLocalDayUnmarked :
    let w := World.run { Defects.asImplemented with syncDeletionLocalDayUnmarked := true } (World.init [true, true])
      otherVersionTrace
    rowOf w 1 k11 = some (2, false) ∧ ((w.peer 1).sigs 1 0 1).length = 1 ∧
    rowOf (World.run Defects.asImplemented (World.init [true, true]) otherVersionTrace) 1 k11 = some (1, false) := by
  decide +kernel

end Discret.Sync

/-! ### the day of a date (`date_utils.rs`): the buckets of the daily log are the days `t / 86400000`

`Model/Date.lean` models `date` and `date_next_day` as written, chrono's representable range included; the `dates`
stream of the check runs them against the real functions (boundaries of the range, day boundaries, negative dates).
The theorems below justify the abstraction `dayOf t = t / dayMs` that every other model of the daily log uses, for
every date `t` with `InRange t` (from year −262143 to one day before the end of year 262142). -/
namespace Discret.Date

/-- **C09 (a date lies in its own day window).** `date t ≤ t < date_next_day t`, and the window is one day long. -/
theorem C09_date_window {t : Int} (h : InRange t) :
    date t ≤ t ∧ t < dateNextDay t ∧ dateNextDay t = date t + dayMs := by
  rw [dateNextDay_of_inRange h, date_of_inRange h]
  exact ⟨(sub_emod_le dayMs_pos t).1, (sub_emod_le dayMs_pos t).2, rfl⟩

/-- **C09 (the SQL window of a day is the day).** For a representable date `t` and ANY `u`, `u` is selected by the window
    `date t ≤ u < date_next_day t` (daily_log.rs:221, node.rs:460,937, edge.rs:464) exactly when `u` and `t` have
    the same day number — the `dayOf` of the models; and the mark `date t` (daily_log.rs:36) identifies that day. -/
theorem C09_window_iff_same_day {t u : Int} (ht : InRange t) :
    (date t ≤ u ∧ u < dateNextDay t) ↔ dayOf u = dayOf t := by
  rw [dateNextDay_of_inRange ht, date_of_inRange ht]
  exact window_iff_ediv_eq dayMs_pos t u

theorem C09_date_eq_iff_same_day {t u : Int} (ht : InRange t) (hu : InRange u) :
    date t = date u ↔ dayOf t = dayOf u := by
  rw [date_of_inRange ht, date_of_inRange hu]
  exact sub_emod_eq_iff dayMs_pos t u

/-- **C09 (the windows partition the dates).** Two day windows are equal or disjoint: a row is counted in exactly
    one day. -/
theorem C09_windows_disjoint {t t' u : Int} (ht : InRange t) (ht' : InRange t')
    (h : date t ≤ u ∧ u < dateNextDay t) (h' : date t' ≤ u ∧ u < dateNextDay t') : date t = date t' := by
  rw [C09_window_iff_same_day ht] at h; rw [C09_window_iff_same_day ht'] at h'
  exact (C09_date_eq_iff_same_day ht ht').2 (h.symm.trans h')

/-- `date` is idempotent and monotone for EVERY input (clamped ones included): marks are stable under re-marking -/
theorem C09_date_idem (t : Int) : date (date t) = date t := by
  have hb := clamp_bounds t
  have hl := floorDay_le (clamp t)
  have hm : minMs ≤ floorDay (clamp t) := by have := floorDay_mono hb.1; rw [floorDay_min] at this; exact this
  have hc : clamp (floorDay (clamp t)) = floorDay (clamp t) := clamp_of_bounds hm (Int.le_trans hl.1 hb.2)
  simp only [date, hc, floorDay_floorDay]

theorem C09_date_mono {t u : Int} (h : t ≤ u) : date t ≤ date u := floorDay_mono (clamp_mono h)

/-- **C09 (the hypothesis is exact).** `InRange t` holds exactly when the day window of `t`, as the real functions
    compute it, contains `t` and is one day long — the harness derives its `inrange` observation from the real
    `date` / `date_next_day` this way, so the correspondence also checks the hypothesis of the theorems above. -/
theorem C09_inRange_iff_window (t : Int) :
    InRange t ↔ (date t ≤ t ∧ t < dateNextDay t ∧ dateNextDay t = date t + dayMs) := by
  constructor
  · exact C09_date_window
  · intro ⟨h1, h2, h3⟩
    unfold date at h1 h3
    unfold dateNextDay at h2 h3
    dsimp only at h2 h3
    have hD := dayMs_pos
    rcases clamp_cases t with ⟨hlt, e⟩ | ⟨hgt, e⟩ | ⟨hlo, hhi, e⟩ <;> rw [e] at h1 h2 h3
    · -- below the range the window starts at the lower bound, after `t`
      rw [floorDay_min] at h1; omega
    · -- above the range the next day falls back to `MAX_UTC`: the window is empty
      rw [if_neg (by omega)] at h3; omega
    · by_cases hc : t + dayMs ≤ maxMs
      · exact ⟨hlo, hc⟩
      · -- in the last representable day the next day falls back to `MAX_UTC`, which lies in the same day
        rw [if_neg hc] at h2 h3
        have := floorDay_le t
        have := floorDay_max
        omega

/-- **C09_breaks_lastDay (boundary of the hypothesis `InRange`, stated so that it stays visible).** In the last
    representable day (year 262142-12-31) and beyond, `date_next_day` falls back to `MAX_UTC` and the window
    `[date t, date_next_day t)` is EMPTY: a row dated there is in no day of the log. No local write can carry such
    a date (`now()`); a peer's row can. Not reached by any stream of the check except `dates`. -/
theorem C09_breaks_lastDay : dateNextDay maxMs = date maxMs ∧ ¬ InRange maxMs ∧ ¬ (maxMs < dateNextDay maxMs) := by
  decide +kernel

-- non-vacuity: ordinary dates are in range, and so are the bounds the harness probes
example : InRange 0 ∧ InRange 1700000000000 ∧ InRange (-1) ∧ InRange minMs ∧ InRange (maxMs - dayMs) := by decide +kernel
example : date 1700000000123 = 1699920000000 ∧ dateNextDay 1700000000123 = 1700006400000 ∧ date (-1) = -86400000 := by decide +kernel

end Discret.Date
