import DiscretModel.Lemmas.Value
import DiscretModel.Lemmas.ValueSql
import DiscretModel.Lemmas.ValueShape
/-
C04 — Values round-trip unchanged and text is never executed.

Model: `Model/Value.lean`. Strings are `List Char` (a Lean `Char` is exactly a Unicode scalar value), integers are
`Int`; no statement below has a bound on the length of a string, the size of a query or the magnitude of
a number. Floats and Json values are opaque to the model (exercised by the harness only).

What is proved about the code as it is (`Defects.asImplemented`) and what only about the intended
behaviour (`Defects.none`) is stated theorem by theorem; the `C04_breaks_*` theorems are concrete
counter-examples of the full statement, for the code as it is or, as regression witnesses, for the code
before a fix (`Defects.beforeFixes`).
-/
namespace Discret.Value

/-- **C04 (strings).** For every string — any Unicode scalars, any length — the text `serde_json` writes
    into the `_json` column is read back by the client as exactly that string. -/
theorem C04_string_roundtrip (s : List Char) : unescape false (escape s) = some s :=
  unescape_escape false s

/-- **C04 (integers).** The decimal text of every integer is read back as that integer; in the `i64`
    range it is also what `str::parse::<i64>` accepts. -/
theorem C04_int_roundtrip (i : Int) :
    parseInt (printInt i) = some i ∧ (inI64 i = true → parseI64 (printInt i) = some i) :=
  ⟨parseInt_printInt i, parseI64_printInt i⟩

/-- **C04 (parameters).** A parameter admitted by `validate_params` for a field (any type the model renders:
    String, Base64, Integer, Boolean, null where the field is nullable) is stored as such, and the JSON
    text written for it, re-emitted by SQLite and read by the client, is that value. -/
theorem C04_param_stored_returned (ty : FieldTy) (nullable : Bool) (v s : Scalar)
    (h : admitParam ty nullable v = .ok s) (ht : v.transparent = true) :
    s = v ∧ readJson (reemit (jsonText s)) = some v := by
  have hs := admitParam_eq ty nullable v s h
  subst hs
  exact ⟨rfl, readJson_jsonText s ht⟩

/-- **C04 (no other field).** Updating a row through a mutation that assigns some fields leaves every other
    field of the row as it was — whatever the row holds (no text at all, empty strings, nulls, absent fields)
    — and a field assigned by a mutation of one assignment reads back as the assigned value (the second part does
    not speak of `sets`). -/
theorem C04_update_keeps_other_fields (row : RowVals) (sets : List (Nat × Scalar)) (k : Nat)
    (h : ∀ p ∈ sets, p.1 ≠ k) :
    (applyUpdate row sets)[k]? = row[k]? ∧
    ∀ (j : Nat) (v : Scalar), j < row.length → (applyUpdate row [(j, v)])[j]? = some (some v) :=
  ⟨applyUpdate_other row sets k h, fun j v hj => setField_same row j v hj⟩

/-- **C04 (literals, intended behaviour).** With the literal decoding as it should be, the value of a
    string literal is the JSON string it spells. -/
theorem C04_literal_full (body : List Char) : litValue Defects.none body = unescape true body := rfl

/-- The full statement is FALSE of the code (candidate #27): the literal `"\n"` is accepted by the grammar,
    spells a line feed, and is stored as the two characters backslash, `n`. -/
theorem C04_breaks_literalEscapes :
    ∃ body, litOk body = true ∧ unescape true body = some [Char.ofNat 10] ∧
      litValue Defects.asImplemented body = some ['\\', 'n'] ∧
      litValue Defects.asImplemented body ≠ unescape true body :=
  ⟨['\\', 'n'], by decide, by decide, by decide, by decide⟩

/-- **C04_partial (literals, the code as it is).** A literal in which every backslash is followed by a
    double quote — the only escape the parsers decode — means the JSON string it spells.
    Missing with respect to the full statement: every literal that uses another JSON escape. -/
theorem C04_partial (body : List Char) (h : plainLit body = true) :
    litValue Defects.asImplemented body = unescape true body := by
  simp [litValue, Defects.asImplemented, plainLit_unescape body h]

/-- Exact characterisation of the strings that survive being typed as a JSON string literal:
    decoding the JSON spelling of `s` the way the parsers do gives `s` back iff `s` contains no backslash
    and no C0 control character. -/
theorem C04_literal_json_spelling_iff (s : List Char) :
    litDecode (escape s) = s ↔ ∀ c ∈ s, c ≠ '\\' ∧ 32 ≤ c.toNat := by
  rw [litDecode_escape]; exact flatMap_litImage_eq_iff s

/-- **C04 (filters, intended behaviour).** A row storing `v` — `null` included — is matched by the equality
    filter on `v`, given as a parameter or as a literal, whatever the field's default value. -/
theorem C04_filter_matches (dflt : Option Scalar) (v : Scalar) :
    filterMatches Defects.none dflt (some v) (.param v) = true ∧
    filterMatches Defects.none dflt (some v) (.lit v) = true :=
  filterMatches_self _ dflt v fun _ => rfl

/-- a row created before the field existed is matched by the filter on the field's default value -/
theorem C04_filter_matches_default (d : Defects) (dv : Scalar) (h : dv ≠ .null) :
    filterMatches d (some dv) none (.param dv) = true := by
  have := sqlEq_refl dv h
  cases dv <;> simp_all [filterMatches, sqlIsNull]

/-- The full statement is FALSE of the code: a `null` parameter never matches the row that stores `null`
    (`field = ?n` with NULL bound), while the literal `null` does. -/
theorem C04_breaks_nullParamNoMatch :
    filterMatches Defects.asImplemented none (some .null) (.param .null) = false ∧
    filterMatches Defects.asImplemented none (some .null) (.lit .null) = true := ⟨rfl, rfl⟩

/-- **C04_partial (filters, the code as it is).** Every non-null value is matched. -/
theorem C04_partial_filter (dflt : Option Scalar) (v : Scalar) (h : v ≠ .null) :
    filterMatches Defects.asImplemented dflt (some v) (.param v) = true ∧
    filterMatches Defects.asImplemented dflt (some v) (.lit v) = true :=
  filterMatches_self _ dflt v fun hv => absurd hv h

/-- the filter matches no row holding another value (no default involved; values the model renders); holds for
    `b = null` too, `hb` is not needed -/
theorem C04_filter_exact (d : Defects) (a b : Scalar) (ha : a.transparent = true) (hb : b ≠ .null)
    (h : filterMatches d none (some a) (.param b) = true) : a = b :=
  (filterMatches_exact d a b ha).1 h

/-! ## Text is never executed: the structure of the statement

Since the fixes d527622 (String/Base64 defaults of a filtered field are bound) and cedb2ae (a variable never
shares the slot of a literal) the two statement-level deviations are off in `Defects.asImplemented`: the full
statements below hold for the code as it is. `Defects.beforeFixes` is the code before those commits; the
`C04_breaks_*` theorems about it are kept as regression witnesses (their replays are in `corpus/C04`). -/

/-- the `Defects` values whose statements are value independent: the intended behaviour and the code as it is -/
def Defects.structural (d : Defects) : Prop := d.varAliasesLiteral = false ∧ d.defaultSpliced = false

theorem structural_none : Defects.none.structural := ⟨rfl, rfl⟩
theorem structural_asImplemented : Defects.asImplemented.structural := ⟨rfl, rfl⟩

/-- **C04 (structure) — part 1.** In the statement of any query (the code as it is) no text is written
    between quotes, and every spliced piece — a numeral — is lexically closed. -/
theorem C04_structure_closed (q : TopQ) : ∀ t ∈ sqlTokens Defects.asImplemented q, t.closed = true := by
  intro t ht
  cases t with
  | quoted s => exact absurd (sqlTokens_quoted ht).1 (by decide)
  | _ => rfl

/-- **C04 (structure) — part 2.** The statement of a query and the statement of its skeleton (every parameter
    value is outside the query anyway; every literal and default value replaced by an empty one of its kind)
    consist of the same tokens up to the digits of spliced numerals, with the same `?n` numbering and the same
    binding order: no value decides the structure. Holds for the code as it is and for the intended behaviour. -/
theorem C04_structure_invariant (d : Defects) (hd : d.structural) (q : TopQ) :
    shapes (sqlTokens d q.erase) = shapes (sqlTokens d q) ∧
    (compile d q.erase).1 = eraseParams (compile d q).1 :=
  (compile_erase hd.1 hd.2 q).symm

/-- two queries with the same skeleton have statements of the same shape (the code as it is) -/
theorem C04_structure_same_skeleton (q q' : TopQ) (h : q.erase = q'.erase) :
    shapes (sqlTokens Defects.asImplemented q) = shapes (sqlTokens Defects.asImplemented q') := by
  rw [← (C04_structure_invariant _ structural_asImplemented q).1,
    ← (C04_structure_invariant _ structural_asImplemented q').1, h]

/-- spliced numerals are digits with an optional sign: they cannot contain a quote, a space or any SQL
    metacharacter -/
theorem C04_numeral_chars (i : Int) :
    ∀ c ∈ printInt i, c = '-' ∨ (48 ≤ c.toNat ∧ c.toNat ≤ 57) :=
  printInt_chars i

/-- `P(v = $f) { a }` where `v` has the String default `dv` and was added to the model later -/
def witnessQuery (dv : List Char) : TopQ :=
  { table := "P", eshort := "0",
    fields := [.scalar { key := "a", field := { name := "a", short := "32", dflt := none, isSystem := false } }],
    filters := [{ name := "v", op := "=", value := .var "f", selected := false,
                  field := { name := "v", short := "34", dflt := some (.str dv), isSystem := false } }] }

/-- Regression witness (candidate #9, fixed by d527622): before the fix the default value `it's` of a
    filtered field was written between quotes into the statement, where its quote ends the string. -/
theorem C04_breaks_defaultSpliced :
    ∃ t ∈ sqlTokens Defects.beforeFixes (witnessQuery "it's".toList), t.closed = false :=
  ⟨Tok.quoted "it's".toList, by decide +kernel, by decide⟩

/-- **C04_partial (structure, any behaviour).** If no String/Base64/Json default that the statement splices
    contains a quote or a NUL, every spliced piece of the statement is lexically closed — what could be said
    of the code before the fix. -/
theorem C04_partial_structure (d : Defects) (q : TopQ)
    (guard : ∀ s, q.splices s → (Tok.quoted s).closed = true) :
    ∀ t ∈ sqlTokens d q, t.closed = true := by
  intro t ht
  cases t with
  | quoted s => exact guard s (sqlTokens_quoted ht).2
  | _ => rfl

/-- `P(v = "<lit>", a >= $a) { a }` -/
def aliasQuery (lit : List Char) : TopQ :=
  { table := "P", eshort := "0",
    fields := [.scalar { key := "a", field := { name := "a", short := "32", dflt := none, isSystem := false } }],
    filters := [{ name := "v", op := "=", value := .lit (.str lit), selected := false,
                  field := { name := "v", short := "33", dflt := none, isSystem := false } },
                { name := "a", op := ">=", value := .var "a", selected := false,
                  field := { name := "a", short := "32", dflt := none, isSystem := false } }] }

theorem aliasQuery_erase (s t : List Char) : (aliasQuery s).erase = (aliasQuery t).erase := rfl

/-- Regression witness (fixed by cedb2ae): before the fix the slot of a variable was looked up by comparing its
    name with the text of every recorded parameter, literals included. With the literal `"a"` the variable `$a`
    received the literal's slot `?1` (and the literal's text was bound there); with `"b"` it received `?2`.
    The two queries have the same skeleton. The code as it is gives `$a` its own slot. -/
theorem C04_breaks_varAliasesLiteral :
    (aliasQuery "a".toList).erase = (aliasQuery "b".toList).erase ∧
    Tok.bind 2 ∈ sqlTokens Defects.beforeFixes (aliasQuery "b".toList) ∧
    Tok.bind 2 ∉ sqlTokens Defects.beforeFixes (aliasQuery "a".toList) ∧
    (compile Defects.beforeFixes (aliasQuery "a".toList)).1 = [(true, "a".toList)] ∧
    (compile Defects.asImplemented (aliasQuery "a".toList)).1 = [(true, "a".toList), (false, "a".toList)] :=
  ⟨aliasQuery_erase _ _, by decide +kernel, by decide +kernel, by decide +kernel, by decide +kernel⟩

/-! ## The hypotheses are satisfiable by non-trivial values -/

example : unescape false (escape "a\"b\\c\n\x00é😀'; DROP TABLE _node; --".toList)
    = some "a\"b\\c\n\x00é😀'; DROP TABLE _node; --".toList := C04_string_roundtrip _

example : plainLit "say \\\"hi\\\" it's".toList = true ∧
    litValue Defects.asImplemented "say \\\"hi\\\" it's".toList = some "say \"hi\" it's".toList := by
  constructor <;> decide +kernel

example : admitParam .string false (.str "x'y".toList) = .ok (.str "x'y".toList) ∧
    (Scalar.str "x'y".toList).transparent = true := ⟨rfl, rfl⟩

example : admitParam .integer true .null = .ok .null := rfl

example : readRow (applyUpdate [some (.int 1), some (.float 4602678819172646912 "0.5".toList), some (.bool true), none] [(0, .int 2)])
    = [.int 2, .float 4602678819172646912 "0.5".toList, .bool true, .null] := by decide

example : (witnessQuery "plain".toList).splices "plain".toList ∧ (Tok.quoted "plain".toList).closed = true :=
  ⟨Or.inl ⟨_, List.mem_singleton.mpr rfl, rfl⟩, by decide⟩

example : (aliasQuery "a".toList).erase = (aliasQuery "zzz".toList).erase := aliasQuery_erase _ _

end Discret.Value
