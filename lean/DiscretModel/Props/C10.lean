import DiscretModel.Lemmas.RoomImport
/-
C10 — A room means the same live, after restart, and on a peer that imports it.

Models: `Model/Room.lean` (decision functions, append-only histories), `Model/RoomBuild.lean` (the
construction paths: local mutation, reload at start-up, export, import of a new room, import on top of an
earlier version). The compiled model (`dmodel_room`) is run against real `GraphDatabaseService` instances
on every check (`checks/C10.py`).

All statements quantify over every history (any number of entries, keys, groups, dates, instances).
-/
namespace Discret.RoomBuild
open Discret.Room

/-- the instances that can be reached: local room mutations by any caller at any date, restarts, and
    imports of ANY candidate (honest or not — which candidates are accepted is C07's subject) -/
inductive Reachable (df : Defects) : Site → Prop
  | empty : Reachable df Site.empty
  | mutate {s s' : Site} {caller : Key} {n : Nat} {m : MutSpec} :
      Reachable df s → s.mutate df caller n m = .ok s' → Reachable df s'
  | restart {s s' : Site} : Reachable df s → s.restart df = .ok s' → Reachable df s'
  | importRoom {s s' : Site} {cand : RoomRow} :
      Reachable df s → s.importRoom df cand = .ok s' → Reachable df s'

/-- **C10 (invariant).** In every reachable instance (intended behaviour), every room held in memory is
    well-formed and holds exactly the entries of the rows stored for it, list by list; every stored room is
    held in memory; the instance is alive. -/
theorem C10_invariant {s : Site} (h : Reachable Defects.none s) : SiteInv s ∧ s.dead = false := by
  induction h with
  | empty => exact ⟨siteInv_empty, rfl⟩
  | @mutate s s' caller n m _ hm ih =>
    exact ⟨siteInv_mutate ih.1 hm, mutate_alive hm⟩
  | @restart s s' _ hr ih =>
    obtain ⟨s2, h2, hi, hd, _⟩ := restart_ok ih.1 ih.2 fun _ _ => loads_none
    rw [h2] at hr; cases hr
    exact ⟨hi, hd⟩
  | @importRoom s s' cand _ hm ih =>
    exact ⟨siteInv_import ih.1 hm, importRoom_alive hm⟩

/-- **C10 (the decisions are a function of the stored entries).** Two well-formed rooms that hold the
    entries of the same rows — inserted in ANY order, groups in any order — give the same answer to every
    question (`isAdmin`, `isUserValidAt`, `canAdminUsers` of every group, `can` for every key, entity, right)
    at every date, provided that within one list two entries with the same key and the same date carry the
    same payload (`TiesHarmless`). This is why live construction, reload and import agree. -/
theorem C10_same_meaning {r₁ r₂ : Room} {x y : RoomRow} (a1 : Agrees r₁ x) (a2 : Agrees r₂ y)
    (hs : SameRows x y) (w1 : r₁.WF) (w2 : r₂.WF) (ht : TiesHarmless x) (d : Int) : r₁.SameAt r₂ d :=
  sameAt_of_agrees a1 a2 hs w1 w2 ht d

/-- **C10 (restart).** A reachable instance can always be restarted on the data it wrote itself, and every
    room it held means the same afterwards. -/
theorem C10_restart {s : Site} (h : Reachable Defects.none s) :
    ∃ s', s.restart Defects.none = .ok s' ∧
      ∀ rid r, s.getMem rid = some r →
        ∃ r' rr, s'.getMem rid = some r' ∧ s.getStored rid = some rr ∧
          (TiesHarmless rr → ∀ d, r.SameAt r' d) := by
  obtain ⟨hi, hd⟩ := C10_invariant h
  obtain ⟨s', hr, _, _, hrooms⟩ := restart_ok hi hd fun _ _ => loads_none
  exact ⟨s', hr, hrooms⟩

/-- **C10 (import by an instance that had never seen the room).** If the export of an instance satisfying
    the invariant (every reachable instance does, `C10_invariant`) is accepted by an instance that does not
    hold the room, the room installed there means the same as the room of the exporter. Holds whatever the
    switches are (`df` arbitrary): the defects make imports FAIL, they do not make them mean something else. -/
theorem C10_import_unknown {df : Defects} {src dst dst' : Site} (hinv : SiteInv src) (hd : src.dead = false)
    {rid : Id} {r : Room} {cand : RoomRow} (hm : src.getMem rid = some r)
    (he : src.export df rid = .ok cand) (hnone : dst.getMem rid = none)
    (hi : dst.importRoom df cand = .ok dst') :
    ∃ r' rr, dst'.getMem rid = some r' ∧ src.getStored rid = some rr ∧
      (TiesHarmless rr → ∀ d, r.SameAt r' d) := by
  obtain ⟨rr, hs, ha, hw⟩ := hinv.agree _ _ hm
  rw [export_of_stored hd hs] at he
  cases he
  have hcid : (exportRoom df rr).rid = rid := (getStored_some hs : rr.rid = rid)
  obtain ⟨_, room, hp, rfl⟩ := importRoom_new (hcid.symm ▸ hnone) hi
  have hparse := (prepareNewRoom_ok hp).1
  refine ⟨room, rr, ?_, hs, fun ht d => ?_⟩
  · rw [getMem_install, if_pos ((parseRoom_ok hparse).1.trans hcid).symm]
  · exact sameAt_of_export ha hw (.refl _) hparse ht d

/-- **C10 (import by an instance that had an earlier version of the room).** The importer holds the room; what
    it stores for it is contained in the candidate (`Covers`: it holds an earlier version); the candidate brings
    something new and is accepted. Then the room installed means the same as the exporter's room. Holds whatever
    the switches are (`df` arbitrary). -/
theorem C10_import_earlier {df : Defects} {src dst dst' : Site} (hinv : SiteInv src) (hd : src.dead = false)
    {rid : Id} {r rd : Room} {cand old merged : RoomRow} (hm : src.getMem rid = some r)
    (he : src.export df rid = .ok cand) (hmem : dst.getMem rid = some rd) (hst : dst.getStored rid = some old)
    (hcov : Covers cand (exportRoom df old))
    (hprep : prepareWithHistory df rd (exportRoom df old) cand = .ok (true, merged))
    (hi : dst.importRoom df cand = .ok dst') :
    ∃ r' rr, dst'.getMem rid = some r' ∧ src.getStored rid = some rr ∧
      (TiesHarmless rr → ∀ d, r.SameAt r' d) := by
  obtain ⟨rr, hs, ha, hw⟩ := hinv.agree _ _ hm
  rw [export_of_stored hd hs] at he
  cases he
  have hcid : (exportRoom df rr).rid = rid := (getStored_some hs : rr.rid = rid)
  have hnod := (exportRoom_gids_perm df rr).nodup_iff.mpr (agreesOrd_gids_nodup ha hw)
  obtain ⟨hsame, hmrid⟩ := prepareWithHistory_sameRows hcov hnod hprep
  obtain ⟨_, old', need, merged', hst', hprep', hcase⟩ := importRoom_known (hcid.symm ▸ hmem) hi
  rw [hcid, hst] at hst'; cases hst'
  rw [hprep] at hprep'; cases hprep'
  rcases hcase with ⟨hn, _⟩ | ⟨_, room', hparse, rfl⟩
  · cases hn
  · refine ⟨room', rr, ?_, hs, fun ht d => ?_⟩
    · rw [getMem_install, if_pos (((parseRoom_ok hparse).1.trans hmrid).trans hcid).symm]
    · exact sameAt_of_export ha hw hsame hparse ht d

/-- **C10 (import, in general).** Whatever a reachable instance accepts — a new room, or a newer version of a room
    it holds — it satisfies the invariant afterwards (memory holds the entries of the stored rows, list by list) and
    is reachable: the importer itself is consistent, so `C10_restart` applies to it (restart of the importer), and so
    does `C10_same_meaning` with any other instance storing the same rows. -/
theorem C10_import_consistent {s s' : Site} {cand : RoomRow} (hs : Reachable Defects.none s)
    (hi : s.importRoom Defects.none cand = .ok s') : SiteInv s' ∧ Reachable Defects.none s' :=
  ⟨(C10_invariant (Reachable.importRoom hs hi)).1, Reachable.importRoom hs hi⟩

/-- the instances built by accepted LOCAL room mutations alone (one instance, any callers), where every mutation is
    dated after every date its room already holds (`AllEntries (· < m.date)`: a clock that moves forward between
    mutations of one room) -/
inductive BuiltLocally (df : Defects) : Site → Prop
  | empty : BuiltLocally df Site.empty
  | mutate {s s' : Site} {caller : Key} {n : Nat} {m : MutSpec} :
      BuiltLocally df s → s.mutate df caller n m = .ok s' →
      (∀ rr, s.getStored m.rid = some rr → AllEntries (fun _ t => t < m.date) rr) → BuiltLocally df s'

/-- every such instance satisfies the invariant, is alive, and — with the repaired rule for group creation — every
    stored row is signed by a key that is admin of the room (as held now) at the row's date: the caller of an accepted
    mutation of an existing room is admin before and after it, the creator of a room is admin of it or creates it
    empty (`validate_existing_admin`, `validate_new_admin_or_empty`), and later entries do not change who was admin
    at earlier dates (past stability, `validate_isAdmin_past`) -/
theorem C10_built_entitled {df : Defects} (hdf : df.groupCreationUnchecked = false) {s : Site}
    (h : BuiltLocally df s) : SiteInv s ∧ s.dead = false ∧ SiteEntitled s := by
  induction h with
  | empty => exact ⟨siteInv_empty, rfl, fun _ _ _ hm => nomatch hm⟩
  | @mutate s s' caller n m _ hm hdates ih =>
    obtain ⟨hi, _, he⟩ := ih
    exact ⟨siteInv_mutate hi hm, mutate_alive hm, siteEntitled_mutate hdf hi he hm hdates⟩

/-- **C10 (the import by an instance that never saw the room SUCCEEDS).** For every instance built by accepted
    local room mutations whose dates move forward (`BuiltLocally`), every room it holds whose stored entries have
    harmless ties is exported, accepted by ANY live instance that does not hold the room — in particular a fresh one —
    and means there what it means on the exporter.
    `df` is arbitrary apart from the replay order (fixed in /repo, f7a29ff) and the group-creation rule
    (fixed in /repo, 15ef828; findings/C10-new-group-needs-room-admin.patch): the statement holds for
    `Defects.asImplemented`. The remaining guards are exact: dates that do not move forward
    (`C10_breaks_authorDisabledSameDate`) and conflicting equal-date entries (`C10_breaks_sameDateEntries`) make the
    import fail or mean something else. -/
theorem C10_import_succeeds {df : Defects} (hnf : df.newestFirstReplay = false)
    (hdf : df.groupCreationUnchecked = false) {src : Site}
    (hb : BuiltLocally df src) {rid : Id} {r : Room} {rr : RoomRow} (hm : src.getMem rid = some r)
    (hs : src.getStored rid = some rr) (ht : TiesHarmless rr) {dst : Site} (hdd : dst.dead = false)
    (hnone : dst.getMem rid = none) :
    ∃ cand dst' r', src.export df rid = .ok cand ∧ dst.importRoom df cand = .ok dst' ∧
      dst'.getMem rid = some r' ∧ ∀ d, r.SameAt r' d := by
  obtain ⟨hi, hd, he⟩ := C10_built_entitled hdf hb
  obtain ⟨cand, dst', hexp, himp⟩ := import_new_succeeds hnf hi hd hm hs (he rid r rr hm hs) ht hdd hnone
  obtain ⟨r', rr', hm', hs', hsame⟩ := C10_import_unknown hi hd hm hexp hnone himp
  rw [hs] at hs'; cases hs'
  exact ⟨cand, dst', r', hexp, himp, hm', hsame ht⟩

/-- **C10 (what the local rule guarantees about the caller).** With the repaired rule for group creation, a room
    mutation that adds an admin entry, a right, a user admin or a group is accepted only from a caller that is admin of
    the room as it stands after the mutation. `hnodup` and `hfresh` are assumptions on the mutation (it names each group
    once, and a group it marks as new is not one the room has); no theorem derives them from `Site.mutate`. -/
theorem C10_caller_is_admin {df : Defects} (hdf : df.groupCreationUnchecked = false) {mem : Option Room}
    {caller : Key} {m : MutSpec} {room' : Room} (h : validate df mem caller m = .ok room')
    (hnodup : (m.groups.map (·.gid)).Nodup)
    (hfresh : ∀ g ∈ m.groups, g.isNew = true → ∀ r, m.isNew = false → mem = some r → r.getAuth g.gid = none)
    (hneed : m.admins ≠ [] ∨ ∃ g ∈ m.groups, g.rights ≠ [] ∨ g.userAdmins ≠ [] ∨ g.isNew = true) :
    room'.isAdmin caller m.date = true :=
  validate_admin_of_need hdf h hnodup hfresh hneed

/-- creation by key 1 at date 1: admins 1 and 2; group 0 with a right on entity 1 and user 4 -/
def m1 : MutSpec :=
  { rid := 0, isNew := true, date := 1, admins := [(1, true), (2, true)],
    groups := [{ gid := 0, isNew := true, rights := [(1, false, true)], users := [(4, true)], userAdmins := [(1, true)] }] }

/-- at date 3 key 1 disables user 4 and replaces the right -/
def m2 : MutSpec :=
  { rid := 0, isNew := false, date := 3, admins := [],
    groups := [{ gid := 0, isNew := false, rights := [(1, true, false)], users := [(4, false)], userAdmins := [] }] }

-- `siteN` is the result of a mutation that succeeds, in the form `ok_eq_of_toBool` names it (`site1_ok`, `site2_ok`)
def site1 : Site := match Site.empty.mutate Defects.none 1 0 m1 with | .ok s => s | .error _ => Site.empty
def site2 : Site := match site1.mutate Defects.none 1 (0 + m1.size) m2 with | .ok s => s | .error _ => Site.empty

def canAt (s : Site) (k : Key) (e : Ent) (d : Int) (rt : RightType) : Bool :=
  match s.getMem 0 with
  | some r => r.can k e d rt
  | none => false

def restarted (df : Defects) (s : Site) : Site := match s.restart df with | .ok s' => s' | .error _ => Site.empty

def imported (df : Defects) (src dst : Site) : Except MErr Site :=
  match src.export df 0 with
  | .ok c => dst.importRoom df c
  | .error e => .error e

def importedSite (df : Defects) (src : Site) : Site :=
  match imported df src Site.empty with | .ok s => s | .error _ => Site.empty

theorem site1_ok : Site.empty.mutate Defects.none 1 0 m1 = .ok site1 :=
  ok_eq_of_toBool Site.empty (by decide +kernel)

theorem site2_ok : site1.mutate Defects.none 1 (0 + m1.size) m2 = .ok site2 :=
  ok_eq_of_toBool Site.empty (by decide +kernel)

-- a reachable instance with a two-date history; user 4 can write at 2, not at 3
example : Reachable Defects.none site2 :=
  Reachable.mutate (Reachable.mutate Reachable.empty site1_ok) site2_ok

example : canAt site2 4 1 2 .mutateSelf = true ∧ canAt site2 4 1 3 .mutateSelf = false ∧
    canAt site2 2 1 3 .mutateSelf = true ∧ canAt site2 2 1 3 .mutateAll = false := by decide +kernel

-- with the intended behaviour the restart and the fresh import succeed and give the same answers
example : canAt (restarted Defects.none site2) 4 1 2 .mutateSelf = true ∧
    canAt (restarted Defects.none site2) 4 1 3 .mutateSelf = false := by decide +kernel

example : (imported Defects.none site2 Site.empty).toBool = true := by decide +kernel

-- the hypotheses of `C10_import_earlier` are met by a non-trivial pair: a peer that imported the room after its
-- creation (`site1`) then receives the two-date history of `site2`: its rows are covered, something new arrives
example :
    let dst := importedSite Defects.none site1
    (match site2.export Defects.none 0, dst.getMem 0, dst.getStored 0 with
      | .ok cand, some rd, some old =>
        coversB cand (exportRoom Defects.none old) &&
        (match prepareWithHistory Defects.none rd (exportRoom Defects.none old) cand with
          | .ok (true, _) => true | _ => false) &&
        (dst.importRoom Defects.none cand).toBool
      | _, _, _ => false) = true := by decide +kernel

/-! Each witness of a defect turns ONE switch on over the intended behaviour (so that it does not depend on
`Defects.asImplemented`, where every switch is off since the fixes in /repo) and shows the statement failing, then
holding again with the switch off. -/

/-- **C10_breaks_newestFirstReplay (#4).** After a second entry for one key (user 4 disabled at a later
    date) the instance cannot be restarted, and a fresh peer cannot import the room: the entries are
    replayed newest first into the append-only histories. -/
theorem C10_breaks_newestFirstReplay :
    (site2.restart { Defects.none with newestFirstReplay := true }).toBool = false ∧
    (imported { Defects.none with newestFirstReplay := true } site2 Site.empty).toBool = false ∧
    (site2.restart Defects.none).toBool = true := by decide +kernel

/-- **C10_breaks_reloadRawRights (#5).** A right `{mutate_self: false, mutate_all: true}` grants own-row
    mutations live and on an importer (normalised by `EntityRight::new`) but not after a restart. -/
theorem C10_breaks_reloadRawRights :
    canAt site1 4 1 1 .mutateSelf = true ∧
    canAt (restarted { Defects.none with reloadRawRights := true } site1) 4 1 1 .mutateSelf = false ∧
    canAt (restarted Defects.none site1) 4 1 1 .mutateSelf = true := by
  decide +kernel

/-- a room with two admins and no group -/
def m3 : MutSpec := { rid := 0, isNew := true, date := 1, admins := [(1, true), (2, true)], groups := [] }
def site3 : Site := match Site.empty.mutate Defects.none 1 0 m3 with | .ok s => s | .error _ => Site.empty

def adminAtSite (s : Site) (k : Key) (d : Int) : Bool :=
  match s.getMem 0 with
  | some r => r.isAdmin k d
  | none => false

/-- **C10_breaks_reloadDropsIncompleteRoom.** A room without group is not loaded at start-up: key 2 is an
    admin before the restart and unknown after it. -/
theorem C10_breaks_reloadDropsIncompleteRoom :
    adminAtSite site3 2 1 = true ∧
    adminAtSite (restarted { Defects.none with reloadDropsIncompleteRoom := true } site3) 2 1 = false ∧
    adminAtSite (restarted Defects.none site3) 2 1 = true := by
  decide +kernel

/-- at date 2 admin 1 adds a new group 1 with user 4, without making itself user admin of it -/
def m4 : MutSpec :=
  { rid := 0, isNew := false, date := 2, admins := [],
    groups := [{ gid := 1, isNew := true, rights := [(0, true, false)], users := [(4, true)], userAdmins := [] }] }
def site4 : Site := match site3.mutate Defects.none 1 (0 + m3.size) m4 with | .ok s => s | .error _ => Site.empty
def peer3 (df : Defects) : Site := match imported df site3 Site.empty with | .ok s => s | .error _ => Site.empty

/-- **C10_breaks_newGroupUsersRule (#33).** A peer that already holds the room refuses the honest new
    group (its user was added by a room admin who is not user admin of the new group); a fresh peer accepts
    the very same definition. -/
theorem C10_breaks_newGroupUsersRule :
    (imported { Defects.none with newGroupUsersNeedUserAdmin := true } site4 (peer3 Defects.none)).toBool = false ∧
    (imported { Defects.none with newGroupUsersNeedUserAdmin := true } site4 Site.empty).toBool = true ∧
    (imported Defects.none site4 (peer3 Defects.none)).toBool = true := by decide +kernel

/-- **C10_partial (any switches, under an explicit guard).** An instance satisfying the invariant
    (it does after any sequence of local room mutations and imports: `siteInv_mutate`, `siteInv_import`,
    which hold whatever the switches are) whose stored rooms all satisfy `ReloadGuard` — one date per key in
    every list, no right with all-rows but not own-rows, at least one admin entry and one group — restarts
    successfully, satisfies the invariant again, and every room means the same afterwards — whatever the
    switches are (`df` arbitrary), in particular for `Defects.beforeFixes`.
    What was missing there with respect to the full statement: histories with a second date for some key (#4),
    un-normalised rights (#5), rooms without group or admin, and — for imports on top of an earlier version —
    new groups whose users were added by a plain admin (#33). -/
theorem C10_partial (df : Defects) {s : Site} (hi : SiteInv s) (hd : s.dead = false)
    (hg : ∀ rr ∈ s.stored, ReloadGuard rr) :
    ∃ s', s.restart df = .ok s' ∧ SiteInv s' ∧ s'.dead = false ∧
      ∀ rid r, s.getMem rid = some r →
        ∃ r' rr, s'.getMem rid = some r' ∧ s.getStored rid = some rr ∧
          (TiesHarmless rr → ∀ d, r.SameAt r' d) :=
  restart_ok hi hd fun rr hrr hn => loads_guarded hn (hg rr hrr)

/-- creation with two admins, a group with two rights (none of the all-without-own shape) and two users -/
def m5 : MutSpec :=
  { rid := 0, isNew := true, date := 1, admins := [(1, true), (2, false)],
    groups := [{ gid := 0, isNew := true, rights := [(1, true, true), (0, true, false)],
                 users := [(4, true), (5, false)], userAdmins := [(1, true)] }] }
def site5 : Site := match Site.empty.mutate Defects.none 1 0 m5 with | .ok s => s | .error _ => Site.empty

def rows5 : RoomRow :=
  { rid := 0, mdate := 1, author := 1,
    admins := [⟨0, 1, 1, true, 1⟩, ⟨1, 2, 1, false, 1⟩],
    groups := [{ gid := 0, uid := 2, mdate := 1, author := 1,
                 rights := [⟨3, 1, 1, true, true, 1⟩, ⟨4, 0, 1, true, false, 1⟩],
                 users := [⟨5, 4, 1, true, 1⟩, ⟨6, 5, 1, false, 1⟩],
                 userAdmins := [⟨7, 1, 1, true, 1⟩] }] }

-- the guard is satisfiable by a non-trivial stored room, and then the code before the fixes restarts and agrees
example : site5.stored = [rows5] ∧ (∀ rr ∈ site5.stored, ReloadGuard rr) := by
  have h : site5.stored = [rows5] := by decide +kernel
  refine ⟨h, fun rr hrr => ?_⟩
  cases List.mem_singleton.mp (h ▸ hrr)
  constructor <;> decide +kernel

example : canAt site5 4 1 1 .mutateAll = true ∧
    canAt (restarted ⟨true, true, true, true, false, true⟩ site5) 4 1 1 .mutateAll = true ∧
    canAt site5 5 1 1 .mutateSelf = false ∧
    canAt (restarted ⟨true, true, true, true, false, true⟩ site5) 5 1 1 .mutateSelf = false := by
  decide +kernel

/-- a room created by key 1 with an empty group and NO admin entry -/
def m7 : MutSpec :=
  { rid := 0, isNew := true, date := 1, admins := [],
    groups := [{ gid := 0, isNew := true, rights := [], users := [], userAdmins := [] }] }
def site7 : Site :=
  match Site.empty.mutate { Defects.none with groupCreationUnchecked := true } 1 0 m7 with
  | .ok s => s | .error _ => Site.empty

/-- **C10_breaks_groupCreatedByNonAdmin (fixed in /repo: 15ef828).** With the switch on, the live path lets a creator
    add an empty group without being admin of the room (nothing in `validate_authorisation_mutation` asked for it
    before the fix); every importer refuses the group row
    because its author is not admin (`prepare_new_room`): the two rules differ. With the switch off the local
    rule asks what every importer asks (the creator of a group is admin of the room as it stands after the
    mutation) and the creation is refused locally.
    (Replayed on the real code: corpus/C10/group-created-by-non-admin.ops.) -/
theorem C10_breaks_groupCreatedByNonAdmin :
    (Site.empty.mutate { Defects.none with groupCreationUnchecked := true } 1 0 m7).toBool = true ∧
    (imported Defects.none site7 Site.empty).toBool = false ∧
    (Site.empty.mutate Defects.none 1 0 m7).toBool = false := by decide +kernel

/-- concurrent edits: instance A (key 1) and instance B (key 2, which imported the room) both make key 5 admin,
    A at date 1, B at date 4; A then merges B's version -/
def m8a : MutSpec := { rid := 0, isNew := false, date := 1, admins := [(5, true)], groups := [] }
def m8b : MutSpec := { rid := 0, isNew := false, date := 4, admins := [(5, true)], groups := [] }
def siteA8 : Site := match site1.mutate Defects.none 1 100 m8a with | .ok s => s | .error _ => Site.empty
def siteB8 : Site := match (importedSite Defects.none site1).mutate Defects.none 2 200 m8b with | .ok s => s | .error _ => Site.empty
def siteA8' : Site := match imported Defects.none siteB8 siteA8 with | .ok s => s | .error _ => Site.empty

/-- **C10_breaks_mergeOlderEntry.** `prepare_room_with_history` appends the new admin entries to the importer's
    live room, which is append-only per key: B, which holds "key 5 admin since 4", cannot import A's merged
    version carrying "key 5 admin since 1" (`InvalidUserDate`), although A could import B's. No switch removes
    this. (Replayed on the real code: corpus/C10/merge-older-entry.ops.) -/
theorem C10_breaks_mergeOlderEntry :
    (imported Defects.none siteB8 siteA8).toBool = true ∧
    (imported Defects.none siteA8' siteB8).toBool = false := by decide +kernel

/-- concurrent edits: B (key 2, which imported the room) disables admin 1 at date 2; A (key 1), not knowing, grants
    a right at date 3; A then merges B's version -/
def m9b : MutSpec := { rid := 0, isNew := false, date := 2, admins := [(1, false)], groups := [] }
def m9a : MutSpec :=
  { rid := 0, isNew := false, date := 3, admins := [],
    groups := [{ gid := 0, isNew := false, rights := [(2, true, true)], users := [], userAdmins := [] }] }
def siteB9 : Site := match (importedSite Defects.none site1).mutate Defects.none 2 200 m9b with | .ok s => s | .error _ => Site.empty
def siteA9 : Site := match site1.mutate Defects.none 1 100 m9a with | .ok s => s | .error _ => Site.empty
def siteA9' : Site := match imported Defects.none siteB9 siteA9 with | .ok s => s | .error _ => Site.empty

/-- **C10_breaks_authorDisabledConcurrently.** `prepare_room_with_history` checks the NEW entries of a candidate
    against the merged history but never re-checks the entries the importer already holds: A accepts B's version
    (admin 1 disabled from date 2) and keeps its own right entry of date 3 signed by key 1; from then on no
    instance that does not already hold that entry can import A's definition (`prepare_new_room` /
    `prepare_room_with_history` refuse the entry: its author is not admin at its date) — neither a fresh peer nor
    B. No switch removes this. (Replayed on the real code: corpus/C10/author-disabled-concurrently.ops.) -/
theorem C10_breaks_authorDisabledConcurrently :
    (imported Defects.none siteB9 siteA9).toBool = true ∧
    (imported Defects.none siteA9' Site.empty).toBool = false ∧
    (imported Defects.none siteA9' siteB9).toBool = false := by decide +kernel

/-- at date 1 (the date of the creation) key 1 disables admin 2: two entries of key 2 with one date -/
def m6 : MutSpec := { rid := 0, isNew := false, date := 1, admins := [(2, false)], groups := [] }
def site6 : Site := match site1.mutate Defects.none 1 (0 + m1.size) m6 with | .ok s => s | .error _ => Site.empty

/-- **C10_breaks_sameDateEntries.** The guard `TiesHarmless` is needed even for the intended behaviour.
    Two entries of one key with the same date and different flags: the live instance takes the last
    inserted (admin 2 is disabled); an importer takes them in the order the exporter's storage returns them,
    uid order, and uids are random: when the later entry got the smaller uid, admin 2 is enabled on the
    importer. (Replayed on the real code with `uids=desc`: corpus/C10/same-date-conflict.ops.) -/
theorem C10_breaks_sameDateEntries :
    adminAtSite site6 2 1 = false ∧
    adminAtSite (importedSite Defects.none site6) 2 1 = false ∧
    adminAtSite (importedSite { Defects.none with uidOrderReversed := true } site6) 2 1 = true := by decide +kernel

/-- `site2` (creation at date 1 by admin 1, update at date 3 by admin 1) is built locally, and a fresh instance
    accepts its export -/
example : BuiltLocally Defects.none site2 := by
  refine BuiltLocally.mutate (BuiltLocally.mutate BuiltLocally.empty site1_ok ?_) site2_ok ?_
  · intro rr hrr; cases hrr
  · intro rr hrr
    have : site1.getStored 0 = some (match site1.getStored 0 with | some r => r | none => ⟨0, 0, 0, [], []⟩) := by
      decide +kernel
    rw [show site1.getStored m2.rid = site1.getStored 0 from rfl, this] at hrr
    cases hrr
    constructor <;> decide +kernel

/-- key 4 is made user admin of group 0 (and nothing else) at date 2 by admin 1; at date 3 key 4 tries to add user 5 -/
def m10 : MutSpec :=
  { rid := 0, isNew := false, date := 2, admins := [],
    groups := [{ gid := 0, isNew := false, rights := [], users := [], userAdmins := [(4, true)] }] }
def m11 : MutSpec :=
  { rid := 0, isNew := false, date := 3, admins := [],
    groups := [{ gid := 0, isNew := false, rights := [], users := [(5, true)], userAdmins := [] }] }
def site10 : Site := match site1.mutate Defects.none 1 100 m10 with | .ok s => s | .error _ => Site.empty

/-- why `BuiltLocally` needs no assumption on the callers: the user-admin rule of `validate_authorisation_mutation`
    (a group's user admin may add users) never applies to an existing room — `validate_room_mutation` refuses every
    caller that is not a room admin before looking at anything else (`C01_room_mutation_existing`) -/
example : (site1.mutate Defects.none 1 100 m10).toBool = true ∧ adminAtSite site10 4 3 = false ∧
    (site10.mutate Defects.none 4 200 m11).toBool = false := by decide +kernel

/-- at date 3 — the date of the update `m2` signed by admin 1 — admin 2 disables admin 1 -/
def m12 : MutSpec := { rid := 0, isNew := false, date := 3, admins := [(1, false)], groups := [] }
def site12 : Site := match site2.mutate Defects.none 2 300 m12 with | .ok s => s | .error _ => Site.empty

/-- **C10_breaks_authorDisabledSameDate (the first hypothesis of `BuiltLocally.mutate` is needed).** On ONE instance:
    admin 2 disables admin 1 with the very date of an entry that admin 1 signed. Live, that entry stays in force; for
    an importer its author is not admin at its date any more (the last entry of admin 1 dated ≤ 3 is the disabling
    one): the definition is refused by every instance that does not hold the room. With dates that move forward
    between mutations this cannot happen (`C10_import_succeeds`). -/
theorem C10_breaks_authorDisabledSameDate :
    (site2.mutate Defects.none 2 300 m12).toBool = true ∧
    (imported Defects.none site2 Site.empty).toBool = true ∧
    (imported Defects.none site12 Site.empty).toBool = false := by decide +kernel

end Discret.RoomBuild
