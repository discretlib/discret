import DiscretModel.Lemmas.Serve
import DiscretModel.Gen.ServeTable
/-
C08 — A peer is served data only for rooms it is a member of.

Model: `Model/Serve.lean` interpreting the description of the serving code REGENERATED by translator T1
(`Gen/ServeTable.lean`, `Gen.code`): the request table of `process_inbound` (guard, database read and
membership re-check of every `Query::…` arm, peer_outbound_service.rs) and the admission / revocation decision of
the room-definition event handler (`process_local_event`, peer_inbound_service.rs), over the shared room
model. All statements quantify over every sequence of operations of a connection (handshake, requests of
every kind with arbitrary identifiers, clock, room-definition changes carrying ANY definition — including
entries dated ahead of the clock —, data changes), of any length.
-/
namespace Discret.Serve
open Discret.Room Discret.Serve.Gen

/-- **T1 obligation.** Every data-bearing request kind is guarded by `allowed_room.contains(room)`
    with the database read inside the guarded branch and on the guarded room; `RoomList` by
    `key proven ∧ connection ready`; the fingerprint by `key = own key`; every variant of `enum Query`
    has exactly one arm. A request kind that forgets its check breaks this theorem. -/
theorem C08_table_guards :
    GoodTable serveTable ∧
    (∀ e ∈ serveTable, e.kind ≠ .proveIdentity → e.kind ≠ .hardwareFingerprint → e.kind ≠ .roomList →
      e.guard = .allowedContainsRoom ∧ e.guardedRoomIsQueried = true) ∧
    (∀ e ∈ serveTable, e.kind = .roomList → e.guard = .keyProvenAndReady) ∧
    (∀ k ∈ queryKinds, (serveTable.filter (·.kind = k)).length = 1) ∧
    (∀ e ∈ serveTable, e.kind ∈ queryKinds) := by
  decide +kernel

theorem code_good : GoodTable code.table := C08_table_guards.1

theorem code_total (k : QueryKind) : (lookup code.table k).isSome = true := by
  cases k <;> rfl

/-- **T1b obligation.** The room-definition event handler admits a room to a live connection only for a
    key that is a valid (enabled) member at that moment (`is_user_valid_at(key, now())`, fix 81b6434);
    reverting to `has_user` breaks this theorem and `C08_allowed_admitted` below. -/
theorem C08_event_rule : code.event.admitBy = .validNow ∧ countsDisabled Defects.asImplemented code.event = false := by
  decide

/-- **T1 obligation (membership re-check).** Every request kind guarded by the allowed table is listed in
    the prelude of `process_inbound` that re-validates the requested room against
    `rooms_for_peer(proven key, now())` and removes it from the allowed table when the key is no longer a
    valid member. Removing the re-check, or leaving a request kind out of it, breaks this theorem and
    with it `C08_full` and `C08_every_answer`. -/
theorem C08_code_rechecks : Rechecks Defects.asImplemented code := by
  decide

def reachOf (d : Defects) (cd : Code) (own : Key) (w₀ : World) (ops : List Op) : State :=
  (run d cd own (State.init w₀) ops).1

def reach (d : Defects) (own : Key) (w₀ : World) (ops : List Op) : State := reachOf d code own w₀ ops

def intended (cd : Code) : Code := { cd with table := cd.table.map fun e => { e with recheck := true } }

/-- the regenerated code with the membership re-check switched off (the serving loop before the repair) -/
def unchecked (cd : Code) : Code := { cd with table := cd.table.map fun e => { e with recheck := false } }

/-- **C08 (full), generic.** For any description `cd` of the serving code whose table is well guarded and
    whose prelude re-checks every room-guarded request kind (`Rechecks`), in ANY state `s` of the world and
    of the connection — hence after any history: requests interleaved with room-definition changes, clock
    moves and data changes —:
    a data-bearing answer names a room of the allowed table of which the authenticated key is a valid
    member NOW (according to the definition held when the request is answered), it is the room named by
    the request, and it contains only rows of that room (the member list is made of room-less peer rows);
    a room list is sent only on a ready connection and contains only rooms the key is a member of now;
    and once a request naming room `r` has been processed — served or refused — `r` is still in the
    allowed table only if the key is a valid member of it now (the revocation).
    The re-check makes this a property of one request: no invariant of the connection's past is needed. -/
theorem C08_full_of (d : Defects) (cd : Code) (hg : GoodTable cd.table) (hr : Rechecks d cd)
    (own : Key) (s : State) (q : Query) :
    (∀ r items, (serve d cd s.w own s.c q).2 = .data r items →
      (∃ k, s.c.key = some k ∧ memberNow s.w k r = true) ∧ r ∈ s.c.allowed ∧ q.room? = some r ∧
      ∀ it ∈ items, it.room = some r ∨ (q.kind = .peersForRoom ∧ it.room = none)) ∧
    (∀ rooms, (serve d cd s.w own s.c q).2 = .roomList rooms →
      ∃ k, s.c.key = some k ∧ s.c.ready = true ∧
        ∀ r ∈ rooms, ∃ room ∈ s.w.rooms, room.id = r ∧ room.isUserValidAt k s.w.now = true) ∧
    (∀ r, q.room? = some r → (lookup cd.table q.kind).isSome → r ∈ (serve d cd s.w own s.c q).1.allowed →
      ∃ k, s.c.key = some k ∧ memberNow s.w k r = true) := by
  refine ⟨fun r items h => ?_, fun rooms h => ?_, fun r => serve_post_allowed hg hr⟩
  · obtain ⟨hq, hc, hit, hm⟩ := serve_answer hg h
    exact ⟨hm hr, hc, hq, hit ▸ fetch_room s.w q r hq⟩
  · obtain ⟨k, hk, hrdy, hrm⟩ := serve_answer hg h
    exact ⟨k, hk, hrdy, fun r hmem => mem_roomsForPeer.mp (hrm ▸ hmem)⟩

/-- **C08 (every answer of a run), generic.** The same, stated on the run itself: in ANY sequence of
    operations, if the `i`-th one is a request and its answer carries data of room `r`, then at that
    moment — in the world and connection state produced by the first `i` operations, whatever
    definition changes they contain — the authenticated key is a valid member of `r`, and the items are
    rows of `r` only. -/
theorem C08_every_answer_of (d : Defects) (cd : Code) (hg : GoodTable cd.table) (hr : Rechecks d cd)
    (own : Key) (w₀ : World) (ops : List Op) (i : Nat) (q : Query) (hq : ops[i]? = some (.query q)) :
    let s := reachOf d cd own w₀ (ops.take i)
    ∀ r items, (run d cd own (State.init w₀) ops).2[i]? = some (.data r items) →
      (∃ k, s.c.key = some k ∧ memberNow s.w k r = true) ∧
      ∀ it ∈ items, it.room = some r ∨ (q.kind = .peersForRoom ∧ it.room = none) := by
  intro s r items h
  rw [run_answer (State.init w₀) ops i (.query q) hq] at h
  obtain ⟨h1, _, _, h4⟩ := (C08_full_of d cd hg hr own s q).1 r items (Option.some.inj h)
  exact ⟨h1, h4⟩

/-- **C08 (full), for the code as it is.** `C08_full_of` for `Defects.asImplemented` and the description
    `Gen.code` regenerated from the source on this run; the two hypotheses are decided on it
    (`C08_table_guards`, `C08_code_rechecks`). -/
theorem C08_full (own : Key) (w₀ : World) (ops : List Op) (q : Query) :
    let s := reachOf Defects.asImplemented code own w₀ ops
    (∀ r items, (serve Defects.asImplemented code s.w own s.c q).2 = .data r items →
      (∃ k, s.c.key = some k ∧ memberNow s.w k r = true) ∧ r ∈ s.c.allowed ∧ q.room? = some r ∧
      ∀ it ∈ items, it.room = some r ∨ (q.kind = .peersForRoom ∧ it.room = none)) ∧
    (∀ rooms, (serve Defects.asImplemented code s.w own s.c q).2 = .roomList rooms →
      ∃ k, s.c.key = some k ∧ s.c.ready = true ∧
        ∀ r ∈ rooms, ∃ room ∈ s.w.rooms, room.id = r ∧ room.isUserValidAt k s.w.now = true) ∧
    (∀ r, q.room? = some r → r ∈ (serve Defects.asImplemented code s.w own s.c q).1.allowed →
      ∃ k, s.c.key = some k ∧ memberNow s.w k r = true) := by
  intro s
  obtain ⟨h1, h2, h3⟩ := C08_full_of Defects.asImplemented code code_good C08_code_rechecks own s q
  exact ⟨h1, h2, fun r hq => h3 r hq (code_total q.kind)⟩

/-- **C08 (every answer of a run)** for the same model: see `C08_every_answer_of`. -/
theorem C08_every_answer (own : Key) (w₀ : World) (ops : List Op) (i : Nat) (q : Query)
    (hq : ops[i]? = some (.query q)) :
    let s := reachOf Defects.asImplemented code own w₀ (ops.take i)
    ∀ r items, (run Defects.asImplemented code own (State.init w₀) ops).2[i]? = some (.data r items) →
      (∃ k, s.c.key = some k ∧ memberNow s.w k r = true) ∧
      ∀ it ∈ items, it.room = some r ∨ (q.kind = .peersForRoom ∧ it.room = none) :=
  C08_every_answer_of Defects.asImplemented code code_good C08_code_rechecks own w₀ ops i q hq

/-- **C08 (before authentication).** Whatever happened before, a connection that has proved no key
    has an empty allowed table and every request gets silence, a refusal or the identity proof —
    never data, never a room list. Holds for the code as it is (and for every setting of the switches). -/
theorem C08_unauthenticated (d : Defects) (own : Key) (w₀ : World) (hw : WInv w₀) (ops : List Op) (q : Query) :
    let s := reach d own w₀ ops
    s.c.key = none →
      s.c.allowed = [] ∧
      ((serve d code s.w own s.c q).2 = .silent ∨ (serve d code s.w own s.c q).2 = .refused ∨
        (serve d code s.w own s.c q).2 = .identity) := by
  intro s hk
  have hi : Inv d code.event s := run_inv (inv_init hw) ops
  exact ⟨hi.unauth hk, serve_unauth code_good hk (hi.unauth hk)⟩

/-- **C08_allowed_admitted.** For the code as it is, after any history: every data-bearing answer names a room
    of the allowed table and contains only rows of that room; every room of the allowed table was
    admitted for the proven key `k` at a time `t ≤ now` at which `k` was a VALID member according to
    the definition of the room then in force (room list, or definition-change event since fix
    81b6434). Membership NOW at the time of an answer is `C08_full`. -/
theorem C08_allowed_admitted (own : Key) (w₀ : World) (hw : WInv w₀) (ops : List Op) (q : Query) :
    let s := reach Defects.asImplemented own w₀ ops
    (∀ r ∈ s.c.allowed, ∃ k, s.c.key = some k ∧ ∃ p ∈ s.w.history, ∃ t, p.2.id = r ∧ p.1 ≤ t ∧ t ≤ s.w.now ∧
        p.2.isUserValidAt k t = true) ∧
    (∀ r items, (serve Defects.asImplemented code s.w own s.c q).2 = .data r items →
      r ∈ s.c.allowed ∧ ∀ it ∈ items, it.room = some r ∨ (q.kind = .peersForRoom ∧ it.room = none)) ∧
    (∀ rooms, (serve Defects.asImplemented code s.w own s.c q).2 = .roomList rooms →
      ∃ k, s.c.key = some k ∧ s.c.ready = true ∧ rooms = roomsForPeer s.w k) := by
  intro s
  have hi : Inv Defects.asImplemented code.event s := run_inv (inv_init hw) ops
  refine ⟨fun r hr => ?_, fun r items h => ?_, fun rooms h => serve_answer code_good h⟩
  · obtain ⟨k, hk, p, hp, t, h1, h2, h3, h4⟩ := hi.admitted r hr
    refine ⟨k, hk, p, hp, t, h1, h2, h3, ?_⟩
    rcases h4 with h | ⟨h, _⟩
    · exact h
    · rw [C08_event_rule.2] at h; cases h
  · obtain ⟨hq, hc, hit, _⟩ := serve_answer code_good h
    exact ⟨hc, hit ▸ fetch_room s.w q r hq⟩

/-- the weaker statement that held before fix 81b6434 (`has_user` on the event path): admission by a
    valid membership *or* by merely being named in a user list -/
theorem C08_partial_beforeFix (own : Key) (w₀ : World) (hw : WInv w₀) (ops : List Op) :
    let s := reach Defects.beforeFix own w₀ ops
    ∀ r ∈ s.c.allowed, ∃ k, s.c.key = some k ∧ ∃ p ∈ s.w.history, ∃ t, p.2.id = r ∧ p.1 ≤ t ∧ t ≤ s.w.now ∧
      (p.2.isUserValidAt k t = true ∨ p.2.hasUser k = true) := by
  intro s r hr
  have hi : Inv Defects.beforeFix code.event s := run_inv (inv_init hw) ops
  obtain ⟨k, hk, p, hp, t, h1, h2, h3, h4⟩ := hi.admitted r hr
  exact ⟨k, hk, p, hp, t, h1, h2, h3, h4.imp id (·.2)⟩

def O : Key := 1   -- the serving instance's own key, admin of every room
def K : Key := 2   -- the requester

def roomV1 : Room :=   -- room 7: K is a user of group 70 since date 10
  { id := 7, mdate := 10, admins := [⟨O, 10, true⟩],
    auths := [{ id := 70, mdate := 10, users := [⟨K, 10, true⟩], rights := [], userAdmins := [] }] }
def roomV2 : Room :=   -- … disabled at date 30
  { roomV1 with auths := [{ id := 70, mdate := 10, users := [⟨K, 10, true⟩, ⟨K, 30, false⟩], rights := [], userAdmins := [] }] }
def roomV3 : Room :=   -- … and enabled again at date 50
  { roomV1 with auths := [{ id := 70, mdate := 10, users := [⟨K, 10, true⟩, ⟨K, 30, false⟩, ⟨K, 50, true⟩], rights := [], userAdmins := [] }] }
def roomMoved : Room :=   -- K is taken out of group 70 and put into a new group 71 at date 30
  { roomV1 with auths := [{ id := 70, mdate := 10, users := [⟨K, 10, true⟩, ⟨K, 30, false⟩], rights := [], userAdmins := [] },
                          { id := 71, mdate := 30, users := [⟨K, 30, true⟩], rights := [], userAdmins := [] }] }
def roomAdminV1 : Room :=   -- room 6: K is an admin (and nothing else) since date 10
  { id := 6, mdate := 10, admins := [⟨O, 10, true⟩, ⟨K, 10, true⟩], auths := [] }
def roomAdminV2 : Room :=   -- … demoted at date 30
  { roomAdminV1 with admins := [⟨O, 10, true⟩, ⟨K, 10, true⟩, ⟨K, 30, false⟩] }
def roomDisabledOnly : Room :=   -- room 8: K only ever appears as a DISABLED user
  { id := 8, mdate := 10, admins := [⟨O, 10, true⟩],
    auths := [{ id := 80, mdate := 10, users := [⟨K, 10, false⟩], rights := [], userAdmins := [] }] }
def roomPostDated : Room :=   -- room 7 again: the entry that disables K is dated 50 (the author's clock is ahead)
  { roomV1 with auths := [{ id := 70, mdate := 10, users := [⟨K, 10, true⟩, ⟨K, 50, false⟩], rights := [], userAdmins := [] }] }

def addRows (w : World) : World :=
  { w with rows := [⟨1, some 7, 1, 15⟩, ⟨2, some 8, 1, 15⟩, ⟨3, some 9, 1, 15⟩, ⟨4, some 6, 1, 15⟩], logDays := [(7, 0), (8, 0), (6, 0)] }

/-- **C08_breaks_formerMemberServed** (DESIGN.md §4, site 25; regression witness of fix 2f2a9c0). The
    serving loop before the repair (`Defects.beforeFix`: rooms of the allowed table are never revoked):
    a member lists its rooms, is disabled at date 30, and at date 40 — on the same connection — still
    receives the rows of the room (and a refusal for a room it never belonged to). With the membership
    re-check the same request is refused. -/
theorem C08_breaks_formerMemberServed :
    let ops : List Op := [.advance 10, .install roomV1, .world addRows, .auth K true, .advance 20,
      .query .roomList, .advance 30, .install roomV2, .advance 40]
    let s := reach Defects.beforeFix O World.empty ops
    memberNow s.w K 7 = false ∧
    (serve Defects.beforeFix code s.w O s.c (.nodes 7 [1, 2, 3])).2 = .data 7 [⟨some 7, 1⟩] ∧
    (serve Defects.beforeFix code s.w O s.c (.nodes 9 [1, 2, 3])).2 = .refused ∧
    (serve Defects.asImplemented code (reachOf Defects.asImplemented code O World.empty ops).w O
      (reachOf Defects.asImplemented code O World.empty ops).c (.nodes 7 [1, 2, 3])).2 = .refused := by
  decide +kernel

/-- **C08_revokeOnEvent_insufficient.** Why the repair re-checks at every request instead of taking the
    room away when the definition-change event arrives: a serving loop that revokes on the event (and
    does not re-check) still serves a key that stopped being a member by the clock alone. The definition
    installed at date 20 disables K from date 50 on (an entry written by an admin whose clock is ahead —
    nothing refuses such a definition); at the event K is valid, so the room stays admitted; at date 60
    no event has occurred, K is not a member, and the rows are served. The re-checking loop refuses.
    (On the real service the event additionally travels through two bounded broadcast channels whose
    overflow is ignored, and arrives after the definition is committed.) -/
theorem C08_revokeOnEvent_insufficient :
    let cd : Code := { unchecked code with event := ⟨.validNow, true⟩ }
    let ops : List Op := [.advance 10, .install roomV1, .world addRows, .auth K true, .advance 20,
      .query .roomList, .install roomPostDated, .query (.nodes 7 [1]), .advance 60]
    let s := reachOf Defects.none cd O World.empty ops
    s.c.allowed = [7] ∧ memberNow s.w K 7 = false ∧
    (serve Defects.none cd s.w O s.c (.nodes 7 [1, 2, 3])).2 = .data 7 [⟨some 7, 1⟩] ∧
    (serve Defects.asImplemented code (reachOf Defects.asImplemented code O World.empty ops).w O
      (reachOf Defects.asImplemented code O World.empty ops).c (.nodes 7 [1, 2, 3])).2 = .refused := by
  decide +kernel

/-- **C08_fixed_hasUserCountsDisabled (regression witness, fix 81b6434).** A key that was never a
    valid member of room 8 (its only entry is a disabled one) was admitted by the definition-change
    event and served by the code BEFORE the fix; the code as it is refuses. -/
theorem C08_fixed_hasUserCountsDisabled :
    let ops : List Op := [.advance 5, .auth K true, .advance 10, .install roomDisabledOnly, .world addRows, .advance 20]
    let s := reach Defects.beforeFix O World.empty ops
    let s' := reach Defects.asImplemented O World.empty ops
    (∀ u ∈ roomDisabledOnly.admins ++ roomDisabledOnly.auths.flatMap (fun a => a.users ++ a.userAdmins),
      u.key = K → u.enabled = false) ∧
    (serve Defects.beforeFix code s.w O s.c .roomList).2 = .roomList [] ∧
    (serve Defects.beforeFix code s.w O s.c (.nodes 8 [2])).2 = .data 8 [⟨some 8, 2⟩] ∧
    (serve Defects.asImplemented code s'.w O s'.c (.nodes 8 [2])).2 = .refused := by
  decide +kernel

example : WInv World.empty := ⟨fun _ h => (by cases h), fun _ h => (by cases h)⟩

-- a reachable authenticated state with a non-empty allowed table, a served request and a refused one
example :
    let s := reach Defects.asImplemented O World.empty
      [.advance 10, .install roomV1, .world addRows, .auth K true, .advance 20, .query .roomList]
    s.c.key = some K ∧ s.c.allowed = [7] ∧
    (serve Defects.asImplemented code s.w O s.c (.roomDailyNodes 7 1 0)).2 = .data 7 [⟨some 7, 1⟩] ∧
    (serve Defects.asImplemented code s.w O s.c (.roomLog 8)).2 = .refused := by decide +kernel

-- before authentication the same requests give nothing
example :
    let s := reach Defects.asImplemented O World.empty [.advance 10, .install roomV1, .world addRows]
    (serve Defects.asImplemented code s.w O s.c (.nodes 7 [1])).2 = .refused ∧
    (serve Defects.asImplemented code s.w O s.c .roomList).2 = .silent ∧
    (serve Defects.asImplemented code s.w O s.c .proveIdentity).2 = .identity := by decide +kernel

-- the hypotheses of the generic theorems hold of the model `C08_full` is about
example : GoodTable (code).table ∧ Rechecks Defects.asImplemented code := ⟨code_good, C08_code_rechecks⟩

-- membership changing between requests on ONE live connection (re-checking model): served while a member,
-- refused and revoked once disabled, admitted and served again once re-enabled (definition-change event)
example :
    let run1 := run Defects.asImplemented code O (State.init World.empty)
      [.advance 10, .install roomV1, .world addRows, .auth K true, .advance 20, .query .roomList,
       .query (.nodes 7 [1]), .advance 30, .install roomV2, .query (.nodes 7 [1]), .query (.roomLog 7),
       .advance 50, .install roomV3, .query (.nodes 7 [1])]
    run1.2 = [.silent, .silent, .silent, .silent, .silent, .roomList [7],
       .data 7 [⟨some 7, 1⟩], .silent, .silent, .refused, .refused,
       .silent, .silent, .data 7 [⟨some 7, 1⟩]] ∧
    run1.1.c.allowed = [7] := by decide +kernel

-- … the room is out of the allowed table after the refused request
example :
    let s := reachOf Defects.asImplemented code O World.empty
      [.advance 10, .install roomV1, .world addRows, .auth K true, .advance 20, .query .roomList,
       .advance 30, .install roomV2, .query (.nodes 7 [1])]
    s.c.allowed = [] ∧ memberNow s.w K 7 = false := by decide +kernel

-- an admin who is demoted is refused; a user moved from one group to another stays served
example :
    let s := reachOf Defects.asImplemented code O World.empty
      [.advance 10, .install roomV1, .install roomAdminV1, .world addRows, .auth K true, .advance 20, .query .roomList,
       .advance 30, .install roomAdminV2, .install roomMoved]
    (serve Defects.asImplemented code s.w O s.c (.nodes 6 [4])).2 = .refused ∧
    (serve Defects.asImplemented code s.w O s.c (.nodes 7 [1])).2 = .data 7 [⟨some 7, 1⟩] ∧
    memberNow s.w K 6 = false ∧ memberNow s.w K 7 = true := by decide +kernel

end Discret.Serve
