import DiscretModel.Lemmas.SyncTombs
import DiscretModel.Lemmas.SyncTombsFixedRoom
import DiscretModel.Lemmas.SyncRefineRoom
import DiscretModel.Lemmas.SyncConverge
/-
C11 — a deleted row stays deleted.
With ingestion consulting the deletion log and a deletion record removing every version of its row (`Defects.none`), no
replica ever stores a row that carries a deletion record, whatever the schedule of local writes, writer batches,
recomputations and pulls between any number of peers (`Lemmas/SyncTombs.lean`). In EVERY model that consults the
deletion log (#18 repaired: `Defects.asImplemented` is one) deletion records are per room — a synchronised deletion
deletes `WHERE room_id = ? AND id = ?`, the log is consulted `WHERE room_id = ? AND id IN (..)` — and so is the
statement: a row is never stored (again) in a room in which the peer holds a deletion record of it, and no record is
forgotten (`Lemmas/SyncTombsScoped.lean`); in histories where rows keep the room they were created in — the histories of
the property — this is the statement at the level of row ids (`Lemmas/SyncTombsFixedRoom.lean`).
-/
namespace Discret.Sync
open Discret.DailyLog

theorem visible_of {P : Replica → Prop} {w : World} (h : WAll P w) : ∀ r ∈ w.visible, P r := by
  intro r hr
  unfold World.visible at hr
  split at hr
  · rename_i b hb
    exact (List.mem_or_eq_of_mem_set hr).elim (h.1 r) fun e => e ▸ h.2 b hb
  · exact h.1 r hr

theorem run_append (d : Defects) (w : World) (ops1 ops2 : List Op) :
    World.run d w (ops1 ++ ops2) = World.run d (World.run d w ops1) ops2 :=
  List.foldl_append

/-- **C11 (invariant over any schedule).** Any number of peers, any op sequence (creations use fresh ids): in
    the state reached, no replica — and no committed state hidden behind an open writer batch — stores a row
    whose id carries a deletion record on that replica. -/
theorem C11_invariant (rights : Rights) (ops : List Op)
    (hf : runFresh Defects.none (World.initDated rights) ops) :
    let w := World.run Defects.none (World.initDated rights) ops
    (∀ r ∈ w.peers, NoZombie r) ∧ (∀ r ∈ w.visible, NoZombie r) := by
  have s := run_noZombie (d := Defects.none) rfl rfl ops (World.initDated rights) (init_WZ rights) hf
  exact ⟨s.inv.1, visible_of s.inv⟩

/-- **C11 (a deleted row stays deleted).** Once peer `p` stores a deletion record of row `i` (after `ops1`),
    then after ANY continuation `ops2` — pulls from peers that never saw the deletion included — peer `p`
    still stores a deletion record of `i` and stores no version of row `i` at all. -/
theorem C11_deleted_stays_deleted (rights : Rights) (ops1 ops2 : List Op) (p i : Nat)
    (hf : runFresh Defects.none (World.initDated rights) (ops1 ++ ops2))
    (hd : i ∈ ((World.run Defects.none (World.initDated rights) ops1).peer p).deadIds) :
    let w := World.run Defects.none (World.initDated rights) (ops1 ++ ops2)
    i ∈ (w.peer p).deadIds ∧ ∀ n ∈ (w.peer p).nodes, n.id ≠ i := by
  obtain ⟨hf1, hf2⟩ := runFresh_append Defects.none ops1 ops2 _ hf
  have s1 := run_noZombie (d := Defects.none) rfl rfl ops1 (World.initDated rights) (init_WZ rights) hf1
  have s2 := run_noZombie (d := Defects.none) rfl rfl ops2 _ s1.inv hf2
  simp only
  rw [run_append]
  have hdead := (s2.records p).deadIds i hd
  -- a stored row of that id would carry the record
  exact ⟨hdead, fun n hn e => (noZombie_iff _).mp (WZ.peer s2.inv p) n hn (e ▸ hdead)⟩

/-- the model of the code with the repair of #18 (`findings/C11-ingest-consults-deletion-log-v2.patch`): since that
    repair is in /repo this is `Defects.asImplemented` itself -/
def Defects.repaired18 : Defects := { Defects.asImplemented with ingestIgnoresTombstones := false }

theorem Defects.repaired18_eq : Defects.repaired18 = Defects.asImplemented := rfl

/-- **C11 (one pull, whatever the source holds).** For every model that consults the deletion log — the code with
    #18 repaired, room-scoped deletions and every other deviation included — and ANY source replica (a peer that has
    not seen the deletion, that holds older or newer versions, anything): after the pull the puller stores no row in a
    room in which it holds a deletion record of that row, and it still holds every deletion record it held. -/
theorem C11_pull_keeps_deleted (d : Defects) (hI : d.ingestIgnoresTombstones = false) (rights : Rights)
    (dst src : Replica) (room : Nat) (h : NoZombieR dst) :
    NoZombieR (pull d rights dst src room).dst ∧
      ∀ x ∈ dst.deadPairs, x ∈ (pull d rights dst src room).dst.deadPairs :=
  pull_noZombieR hI rights src h room

/-- **C11 (invariant over any schedule, #18 repaired).** Any number of peers, any op sequence in which no LOCAL write
    itself puts a row into a room where the writer holds its deletion record (`runSafe`: fresh ids for creations, no
    room move into such a room — for every other write outside an open batch this is automatic,
    `C11_safe_is_automatic`): in the state reached no replica — and no committed state hidden behind an open writer
    batch — stores a row in a room in which it holds a deletion record of that row. -/
theorem C11_invariant_repaired (d : Defects) (hI : d.ingestIgnoresTombstones = false) (rights : Rights)
    (ops : List Op) (hs : runSafe d (World.initDated rights) ops) :
    let w := World.run d (World.initDated rights) ops
    (∀ r ∈ w.peers, NoZombieR r) ∧ (∀ r ∈ w.visible, NoZombieR r) := by
  have s := run_noZombieR hI ops (World.initDated rights) (init_WZR rights) hs
  exact ⟨s.inv.1, visible_of s.inv⟩

/-- the guard of `C11_invariant_repaired` is automatic for updates without room move, reference changes and
    deletions made outside an open batch, in every state that satisfies the invariant -/
theorem C11_safe_is_automatic (w : World) (hw : WZR w) (hb : w.batch = none) (p : Nat) :
    (∀ row val sig, Op.safe w (.write p (.upd row val sig none))) ∧
    (∀ row to sig, Op.safe w (.write p (.ref row to sig))) ∧
    (∀ row to sig dsig, Op.safe w (.write p (.unref row to sig dsig))) ∧
    (∀ row dsig, Op.safe w (.write p (.del row dsig))) := by
  have h := WOp.safe_of_noZombieR (hw.peer p)
  simp only [Op.safe, snapOf_of_batch_none hb]
  exact h

/-- **C11 (a deleted row stays deleted, #18 repaired).** Once peer `p` stores a deletion record of row `i` in room
    `room` (after `ops1`), then after ANY continuation `ops2` — pulls from peers that never saw the deletion
    included — peer `p` still stores a deletion record of `i` in that room and stores no version of `i` in that room. -/
theorem C11_deleted_stays_deleted_repaired (d : Defects) (hI : d.ingestIgnoresTombstones = false) (rights : Rights)
    (ops1 ops2 : List Op) (p i room : Nat)
    (hs : runSafe d (World.initDated rights) (ops1 ++ ops2))
    (hd : (i, room) ∈ ((World.run d (World.initDated rights) ops1).peer p).deadPairs) :
    let w := World.run d (World.initDated rights) (ops1 ++ ops2)
    (i, room) ∈ (w.peer p).deadPairs ∧ ∀ n ∈ (w.peer p).nodes, n.id = i → n.room ≠ room := by
  obtain ⟨hs1, hs2⟩ := runSafe_append d ops1 ops2 _ hs
  have s1 := run_noZombieR hI ops1 (World.initDated rights) (init_WZR rights) hs1
  have s2 := run_noZombieR hI ops2 _ s1.inv hs2
  simp only
  rw [run_append]
  have hdead := (s2.records p).deadPairs (i, room) hd
  exact ⟨hdead, fun n hn e1 e2 => (noZombieR_iff _).mp (WZR.peer s2.inv p) n hn (e1 ▸ e2 ▸ hdead)⟩

/-- **C11 (invariant at the level of row ids, #18 repaired, rows keep their room).** Any number of peers, any op
    sequence whose creations use fresh ids and in which a row is created in, and only ever explicitly moved to, the
    room `f` names for it (no row changes room — the histories of the property): no replica, and no committed state
    behind an open batch, stores ANY version of a row whose id carries a deletion record on that replica. -/
theorem C11_invariant_rooms (d : Defects) (hI : d.ingestIgnoresTombstones = false) (rights : Rights) (f : Nat → Nat)
    (ops : List Op) (hf : runFresh d (World.initDated rights) ops) (hk : ∀ op ∈ ops, op.keepsRoom f) :
    let w := World.run d (World.initDated rights) ops
    (∀ r ∈ w.peers, NoZombie r) ∧ (∀ r ∈ w.visible, NoZombie r) := by
  have s := run_noZombie_rooms hI ops (World.initDated rights) (init_WZ rights) (init_WRooms f rights) hf hk
  exact ⟨s.1.inv.1, visible_of s.1.inv⟩

/-- **C11 (a deleted row stays deleted, row ids, #18 repaired, rows keep their room).** Once peer `p` stores a
    deletion record of row `i`, then after any continuation — pulls from peers that never saw the deletion, that hold
    the deleted, an older or a newer version — peer `p` still stores a record of `i` and no version of `i` at all. -/
theorem C11_deleted_stays_deleted_rooms (d : Defects) (hI : d.ingestIgnoresTombstones = false) (rights : Rights)
    (f : Nat → Nat) (ops1 ops2 : List Op) (p i : Nat)
    (hf : runFresh d (World.initDated rights) (ops1 ++ ops2)) (hk : ∀ op ∈ ops1 ++ ops2, op.keepsRoom f)
    (hd : i ∈ ((World.run d (World.initDated rights) ops1).peer p).deadIds) :
    let w := World.run d (World.initDated rights) (ops1 ++ ops2)
    i ∈ (w.peer p).deadIds ∧ ∀ n ∈ (w.peer p).nodes, n.id ≠ i := by
  obtain ⟨hf1, hf2⟩ := runFresh_append d ops1 ops2 _ hf
  have s1 := run_noZombie_rooms hI ops1 (World.initDated rights) (init_WZ rights) (init_WRooms f rights) hf1
    (fun o ho => hk o (List.mem_append_left _ ho))
  have s2 := run_noZombie_rooms hI ops2 _ s1.1.inv s1.2 hf2 (fun o ho => hk o (List.mem_append_right _ ho))
  simp only
  rw [run_append]
  have hdead := (s2.1.records p).deadIds i hd
  exact ⟨hdead, fun n hn e => (noZombie_iff _).mp (WZ.peer s2.1.inv p) n hn (e ▸ hdead)⟩

open Discret.SyncOrder in
/-- **C11 (once a pull has nothing left to bring: record present, row absent).** For every model that consults the
    deletion log (#18 repaired) and compares the whole history (`summaryFirstEntityOnly` off), members holding every
    right, rows that keep their room (or unscoped deletions), no two records of one row on one day in the source (or
    batches not keyed by row id), both logs being the logs of the stored content (C09): when a pull `dst ← src` of a
    room leaves the rows and deletion records of `dst` as they were — the pair is quiescent — `dst` holds every
    deletion record that `src` holds for that room and stores no version of the rows they name.
    `hS`, `hA` and `hR` stand for open known findings: `room-summary-compares-first-entity-only`
    (+ `deletion-missing-room-summaries-equal`), `greater-version-refused-author-lacks-all-rows-right`
    (+ `deletion-refused-local-version-by-other-author`), `moved-row-diverges`
    (+ `deleted-row-older-version-in-other-room`); `hK` for a repaired one, `two-deletion-records-of-one-row-one-day`
    (+ `deletion-record-missing-after-quiescence`; fix a395f05, `deletionBatchKeyedById` is off in
    `Defects.asImplemented`); `hld`, `hls` hold after a recomputation with nothing pending (C09). -/
theorem C11_quiescent_pull_complete (d : Defects) (hI : d.ingestIgnoresTombstones = false)
    (hS : d.summaryFirstEntityOnly = false) (rights : Rights) (hA : AllRights rights) (f : Nat → Nat)
    (dst src : Replica) (hR : d.syncDeletionRoomScoped = false ∨ (RoomFn f dst ∧ RoomFn f src))
    (hK : d.deletionBatchKeyedById = false ∨ DayRecordsDistinct src)
    (hzd : NoZombie dst) (hzs : NoZombie src) (hnd : IdsNodup dst) (hns : IdsNodup src)
    (hpk : PkFun (fun x => x ∈ dst.ntombs ∨ x ∈ src.ntombs))
    (hld : IsLogOf dst.sigs dst.log) (hls : IsLogOf src.sigs src.log) (hsig : SigsDetermine dst src) (room : Nat)
    (hq : abs (pull d rights dst src room).dst = abs dst) :
    ∀ t ∈ src.ntombs, t.room = room → (∃ u ∈ dst.ntombs, u.sig = t.sig) ∧ ∀ n ∈ dst.nodes, n.id ≠ t.id := by
  intro t ht hr
  have hle := pull_quiet_le hI hS (hA.entitled src) ⟨hR, hK, hzd, hzs, hns, hpk⟩ hnd hld hls hsig room hq
  obtain ⟨hrec, u, hu, eu⟩ := le_abs_tombs hle (mem_inRoom_ntombs.mpr ⟨ht, hr⟩)
  -- a row of `dst` with the id of `t` would carry the record `u`
  exact ⟨hrec, fun n hn e => hzd u hu n hn (e.trans eu.symm)⟩

/-- **C11 for the code as it is (one pull, whatever the source holds)**: `C11_pull_keeps_deleted` at `Defects.asImplemented` -/
theorem C11_pull_keeps_deleted_asImplemented (rights : Rights) (dst src : Replica) (room : Nat) (h : NoZombieR dst) :
    NoZombieR (pull Defects.asImplemented rights dst src room).dst ∧
      ∀ x ∈ dst.deadPairs, x ∈ (pull Defects.asImplemented rights dst src room).dst.deadPairs :=
  C11_pull_keeps_deleted Defects.asImplemented rfl rights dst src room h

/-- **C11 for the code as it is (invariant over any schedule)**: `C11_invariant_repaired` at `Defects.asImplemented` -/
theorem C11_invariant_asImplemented (rights : Rights) (ops : List Op)
    (hs : runSafe Defects.asImplemented (World.initDated rights) ops) :
    let w := World.run Defects.asImplemented (World.initDated rights) ops
    (∀ r ∈ w.peers, NoZombieR r) ∧ (∀ r ∈ w.visible, NoZombieR r) :=
  C11_invariant_repaired Defects.asImplemented rfl rights ops hs

/-- **C11 for the code as it is (a deleted row stays deleted)**: once a peer stores a deletion record of a row in a
    room, whatever it pulls afterwards it keeps the record and stores no version of the row in that room -/
theorem C11_deleted_stays_deleted_asImplemented (rights : Rights) (ops1 ops2 : List Op) (p i room : Nat)
    (hs : runSafe Defects.asImplemented (World.initDated rights) (ops1 ++ ops2))
    (hd : (i, room) ∈ ((World.run Defects.asImplemented (World.initDated rights) ops1).peer p).deadPairs) :
    let w := World.run Defects.asImplemented (World.initDated rights) (ops1 ++ ops2)
    (i, room) ∈ (w.peer p).deadPairs ∧ ∀ n ∈ (w.peer p).nodes, n.id = i → n.room ≠ room :=
  C11_deleted_stays_deleted_repaired Defects.asImplemented rfl rights ops1 ops2 p i room hs hd

/-- **C11 for the code as it is, at the level of row ids**, for the histories of the property (rows keep the room they
    were created in): no replica ever stores any version of a row whose id carries a deletion record on it -/
theorem C11_invariant_rooms_asImplemented (rights : Rights) (f : Nat → Nat) (ops : List Op)
    (hf : runFresh Defects.asImplemented (World.initDated rights) ops) (hk : ∀ op ∈ ops, op.keepsRoom f) :
    let w := World.run Defects.asImplemented (World.initDated rights) ops
    (∀ r ∈ w.peers, NoZombie r) ∧ (∀ r ∈ w.visible, NoZombie r) :=
  C11_invariant_rooms Defects.asImplemented rfl rights f ops hf hk

/-- **C11 for the code as it is (a deleted row stays deleted, row ids, rows keep their room)** -/
theorem C11_deleted_stays_deleted_rooms_asImplemented (rights : Rights) (f : Nat → Nat) (ops1 ops2 : List Op)
    (p i : Nat) (hf : runFresh Defects.asImplemented (World.initDated rights) (ops1 ++ ops2))
    (hk : ∀ op ∈ ops1 ++ ops2, op.keepsRoom f)
    (hd : i ∈ ((World.run Defects.asImplemented (World.initDated rights) ops1).peer p).deadIds) :
    let w := World.run Defects.asImplemented (World.initDated rights) (ops1 ++ ops2)
    i ∈ (w.peer p).deadIds ∧ ∀ n ∈ (w.peer p).nodes, n.id ≠ i :=
  C11_deleted_stays_deleted_rooms Defects.asImplemented rfl rights f ops1 ops2 p i hf hk hd

instance (tombs : List NTomb) (id room : Nat) : Decidable (Clear tombs id room) :=
  inferInstanceAs (Decidable (∀ t ∈ tombs, t.id = id → t.room ≠ room))

instance (sn : List Node) (tombs : List NTomb) : (op : WOp) → Decidable (op.safe sn tombs)
  | .new row room _ _ _ => inferInstanceAs (Decidable (Clear tombs row room))
  | .upd row _ _ room => inferInstanceAs (Decidable (∀ old ∈ sn, old.id = row → Clear tombs row (room.getD old.room)))
  | .ref row _ _ | .unref row _ _ _ => inferInstanceAs (Decidable (∀ old ∈ sn, old.id = row → Clear tombs row old.room))
  | .del _ _ => inferInstanceAs (Decidable True)

instance (w : World) : (op : Op) → Decidable (op.safe w)
  | .write p op => inferInstanceAs (Decidable (op.safe (w.snapOf p).nodes (w.peer p).ntombs))
  | .clock .. | .compute .. | .pull .. | .begin .. | .commit .. | .settle .. => inferInstanceAs (Decidable True)

instance (d : Defects) : (ops : List Op) → (w : World) → Decidable (runSafe d w ops)
  | [], _ => inferInstanceAs (Decidable True)
  | op :: t, w =>
    have := instDecidableRunSafe d t (w.exec d op)
    inferInstanceAs (Decidable (op.safe w ∧ runSafe d (w.exec d op) t))

instance (w : World) : (op : Op) → Decidable (op.fresh w)
  | .write p (.new row _ _ _ _) => inferInstanceAs (Decidable (row ∉ (w.peer p).deadIds))
  | .write _ (.upd ..) | .write _ (.ref ..) | .write _ (.unref ..) | .write _ (.del ..)
  | .clock .. | .compute .. | .pull .. | .begin .. | .commit .. | .settle .. => inferInstanceAs (Decidable True)

instance (d : Defects) : (ops : List Op) → (w : World) → Decidable (runFresh d w ops)
  | [], _ => by unfold runFresh; exact inferInstance
  | op :: t, w => by
    unfold runFresh
    have := instDecidableRunFresh d t (w.exec d op)
    exact inferInstance

instance (f : Nat → Nat) : (op : WOp) → Decidable (op.keepsRoom f)
  | .new row room _ _ _ | .upd row _ _ (some room) => inferInstanceAs (Decidable (room = f row))
  | .upd _ _ _ none | .ref .. | .unref .. | .del .. => inferInstanceAs (Decidable True)

instance (f : Nat → Nat) : (op : Op) → Decidable (op.keepsRoom f)
  | .write .. => by unfold Op.keepsRoom; exact inferInstance
  | .clock .. | .compute .. | .pull .. | .begin .. | .commit .. | .settle .. => by unfold Op.keepsRoom; exact inferInstance

/-- non-vacuity: a reachable state in which a peer that never deleted anything stores a deletion record -/
example :
    let w := World.run Defects.none (World.init [true, true, true])
      [.clock 1000, .write 0 (.new 1 1 0 1 11), .compute 0, .pull 1 0 1, .pull 2 0 1,
       .clock 2000, .write 0 (.del 1 12), .compute 0, .pull 1 0 1, .pull 1 2 1, .pull 0 1 1]
    1 ∈ (w.peer 1).deadIds ∧ (w.peer 1).nodes = [] ∧ (w.peer 0).nodes = [] ∧ (w.peer 2).nodes.length = 1 := by
  decide +kernel

/-- the schedule of the property text: delete on A (0); B (1) pulls from A; B pulls from C (2), which has not
    seen the deletion; A pulls from B -/
def comeBackTrace : List Op :=
  [.clock 1000, .write 0 (.new 1 1 0 1 11), .compute 0, .pull 1 0 1, .pull 2 0 1,
   .clock 2000, .write 0 (.del 1 12), .compute 0, .pull 1 0 1, .pull 1 2 1, .pull 0 1 1]

/-- **C11_breaks_ingestIgnoresTombstones** (#18, the code before `findings/C11-ingest-consults-deletion-log-v2.patch`;
    regression witness, replay `corpus/C11/deleted-row-comes-back.ops`). Ingestion never consulted the deletion log: after
    `delete@A, B←A, B←C, A←B` the row is visible again on B and on A — the peer that deleted it — although both
    store its deletion record. With the deletion log consulted it stays deleted. -/
theorem C11_breaks_ingestIgnoresTombstones :
    let w := World.run { Defects.asImplemented with ingestIgnoresTombstones := true } (World.init [true, true, true])
      comeBackTrace
    1 ∈ (w.peer 0).deadIds ∧ 1 ∈ (w.peer 1).deadIds ∧
    (w.peer 0).nodes.map (·.id) = [1] ∧ (w.peer 1).nodes.map (·.id) = [1] ∧
    let w' := World.run { Defects.asImplemented with ingestIgnoresTombstones := false } (World.init [true, true, true])
      comeBackTrace
    (w'.peer 0).nodes = [] ∧ (w'.peer 1).nodes = [] := by
  decide +kernel

/-- non-vacuity of `C11_invariant_repaired`, `C11_invariant_rooms`, `C11_deleted_stays_deleted_*` on the model of the
    repaired code: the schedule of the property text satisfies every guard, B (1) and A (0) store the deletion record
    and no version of the row, C (2) — which never heard of the deletion — still stores it -/
example :
    let d := Defects.repaired18
    let w0 := World.init [true, true, true]
    let w := World.run d w0 comeBackTrace
    runSafe d w0 comeBackTrace ∧ runFresh d w0 comeBackTrace ∧ (∀ op ∈ comeBackTrace, op.keepsRoom fun _ => 1) ∧
    1 ∈ (w.peer 0).deadIds ∧ 1 ∈ (w.peer 1).deadIds ∧ (w.peer 0).nodes = [] ∧ (w.peer 1).nodes = [] ∧
    (w.peer 2).nodes.length = 1 := by
  decide +kernel

/-- rows 1 and 2 refer to each other; row 2 is deleted on a later day than its last change; peer 1 applies the
    deletion and then pulls from peer 2, which has not seen it and holds the row and both references -/
def referencesTrace : List Op :=
  [.clock 1000, .write 0 (.new 1 1 0 1 11), .write 0 (.new 2 1 0 2 12), .clock 2000, .write 0 (.ref 1 2 13),
   .clock 2001, .write 0 (.ref 2 1 14), .compute 0, .pull 1 0 1, .pull 2 0 1,
   .clock 86401000, .write 0 (.del 2 15), .compute 0,
   .pull 1 0 1, .pull 1 2 1, .pull 0 2 1, .pull 0 1 1, .settle 1 6]

/-- non-vacuity, references and a deletion on a later day: on the repaired model the guards hold, the deleted row is
    stored nowhere after quiescence, and no reference has both ends stored; on the model of the code before the repair
    the row is back everywhere with its references (the known findings `reference-of-deleted-row-differs` and
    `deleted-reference-back-with-deleted-row` are consequences of #18) -/
example :
    let w0 := World.init [true, true, true]
    let w := World.run Defects.repaired18 w0 referencesTrace
    let v := World.run { Defects.asImplemented with ingestIgnoresTombstones := true } w0 referencesTrace
    runSafe Defects.repaired18 w0 referencesTrace ∧ runFresh Defects.repaired18 w0 referencesTrace ∧
    w.peers.map (fun r => r.nodes.map (·.id)) = [[1], [1], [1]] ∧
    w.peers.map (fun r => r.deadIds) = [[2], [2], [2]] ∧
    v.peers.map (fun r => r.nodes.map (·.id)) = [[1, 2], [1, 2], [1, 2]] ∧
    (v.peer 0).edges.length = 1 ∧ (v.peer 1).edges.length = 2 := by
  decide +kernel

/-- the opposite arrival order: an unaware peer edits the row after its deletion; peer 1 receives the NEWER version
    first and the deletion record afterwards, then is offered the newer version again -/
def newerFirstTrace : List Op :=
  [.clock 1000, .write 0 (.new 1 1 0 1 11), .compute 0, .pull 1 0 1, .pull 2 0 1,
   .clock 2000, .write 0 (.del 1 12), .compute 0, .clock 3000, .write 2 (.upd 1 5 13 none), .compute 2,
   .pull 1 2 1, .pull 1 0 1, .pull 1 2 1, .settle 1 6]

/-- the deletion wins in both arrival orders on the repaired model: the row is stored nowhere, the record everywhere -/
example :
    let w := World.run Defects.repaired18 (World.init [true, true, true]) newerFirstTrace
    runSafe Defects.repaired18 (World.init [true, true, true]) newerFirstTrace ∧
    w.peers.map (fun r => r.nodes) = [[], [], []] ∧ w.peers.map (fun r => r.deadIds) = [[1], [1], [1]] := by
  decide +kernel

/-- a row that travels between rooms: created in room 1, moved to room 2 by peer 2, moved back to room 1 by peer 1,
    deleted there by peer 0; peer 3 applies the deletion, then pulls room 2 from peer 2, which still holds the
    version of room 2 -/
def twoMovesTrace : List Op :=
  [.clock 1000, .write 0 (.new 1 1 0 1 11), .compute 0, .pull 1 0 1, .pull 2 0 1, .pull 3 0 1,
   .clock 1500, .write 2 (.upd 1 2 12 (some 2)), .compute 2, .pull 1 2 2,
   .clock 3000, .write 1 (.upd 1 3 13 (some 1)), .compute 1, .pull 0 1 1,
   .clock 4000, .write 0 (.del 1 14), .compute 0, .pull 3 0 1, .pull 3 2 2]

/-- **C11_breaks_syncDeletionRoomScoped** (what remains open after the repair of #18). Deletion records are per
    room (`DELETE … WHERE room_id = ? AND id = ?`, a security boundary: the deleter's right is judged in the room the
    record names): for a row that has lived in two rooms, a peer that stores the deletion record of a LATER version in
    room 1 still fetches an OLDER version of the row that another peer holds in room 2. The room-level invariant of
    `C11_invariant_repaired` holds (every guard is satisfied), the id-level statement does not: rows that change room
    are outside `C11_invariant_rooms`. -/
theorem C11_breaks_syncDeletionRoomScoped :
    let w0 := World.init [true, true, true, true]
    let w := World.run Defects.repaired18 w0 twoMovesTrace
    runSafe Defects.repaired18 w0 twoMovesTrace ∧
    (w.peer 3).ntombs.map (fun t => (t.id, t.room, t.mdate)) = [(1, 1, 3000)] ∧
    (w.peer 3).nodes.map (fun n => (n.id, n.room, n.mdate)) = [(1, 2, 1500)] := by
  decide +kernel

end Discret.Sync

namespace Discret.SyncOrder

/-- **C11 (after everybody has synchronised).** When the pulls are joins: once a full round changes nothing,
    a row of which ANY replica initially held a deletion record is shown by no replica, and every replica holds
    every deletion record. -/
theorem C11_converged_absent (s0 : Net) (hw : ∀ x ∈ s0, x.WF) (sched : List (Nat × Nat))
    (hq : (s0.run sched).Quiet) (i : Nat) (hi : i < s0.length) (id : Nat)
    (hdel : ∃ x ∈ s0, x.dead id = true) :
    ((s0.run sched).at i).dead id = true ∧ ((s0.run sched).at i).ver id = none ∧
    ∀ x ∈ s0, ∀ sg, x.recs sg = true → ((s0.run sched).at i).recs sg = true := by
  rw [Net.quiet_is_joinAll hw sched hq hi]
  have hd : (joinAll s0).dead id = true := by
    rw [joinAll_dead]
    obtain ⟨x, hx, hxd⟩ := hdel
    exact List.any_eq_true.mpr ⟨x, hx, hxd⟩
  refine ⟨hd, joinAll_wf s0 id hd, ?_⟩
  intro x hx sg hr
  rw [joinAll_recs]
  exact List.any_eq_true.mpr ⟨x, hx, hr⟩

end Discret.SyncOrder
