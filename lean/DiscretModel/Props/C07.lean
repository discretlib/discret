import DiscretModel.Lemmas.RoomNode
/-
C07 — a room definition accepted from a peer only adds entitled entries.

Model: `Model/RoomNode.lean` (`verify_room_node`, `RoomNode::read`, `prepare_room_node` =
`check_consistency` + `prepare_new_room` | `prepare_room_with_history` / `prepare_auth_with_history` /
`prepare_new_auth`, `RoomNode::write`, `parse`, installation of the parsed room), over the shared room
model. `accept d s cand` is the whole of `add_room_node` on the tables and loaded rooms `s`.
All statements hold for every stored state and every candidate — no bound on sizes or histories.
-/
namespace Discret.RoomNode
open Discret.Room (Key Ent RightType User Right Auth Err)

/-! ## 1. statements that hold for the code as written (any setting of the switches) -/

/-- **C07 (a refused candidate changes nothing; an accepted one is well-signed and well-shaped).**
    `accept` returns a new state only in the `ok` verdict; for a known room that state is the old
    one when nothing is new, and otherwise the tables with the *merged* definition written and the
    room parsed from it installed; for an unknown room, the candidate itself. -/
theorem C07_accept_shape (d : Defects) (s s' : RStore) (cand : RoomNode) (h : accept d s cand = .ok s') :
    cand.sigsOk = true ∧ cand.consistent = true ∧
    ((∃ room old, s.rooms.find? (·.id = cand.node.id) = some room ∧ readBack d.newestFirstRead s cand.node.id = some old ∧
        ∃ merged upd, prepareWithHistory d room old cand = some (.ok (merged, upd)) ∧
          ((upd = false ∧ s' = s) ∨
           (upd = true ∧ ∃ r, merged.parse = .ok r ∧ s' = installRoom (writeRoom s merged) r))) ∨
     (s.rooms.find? (·.id = cand.node.id) = none ∧
        ∃ r, prepareNewRoom (!d.placingEdgeUnchecked) cand = .ok r ∧ s' = installRoom (writeRoom s cand) r)) := by
  obtain ⟨h1, h2, _, _, _, h⟩ := accept_ok h
  refine ⟨h1, h2, ?_⟩
  unfold addChecked at h
  split at h
  · next room hroom =>
    split at h
    · cases h
    · next old hold =>
      split at h
      · cases h
      · cases h
      · next merged upd hprep =>
        refine Or.inl ⟨room, old, hroom, hold, merged, upd, hprep, ?_⟩
        split at h
        · next hu =>
          split at h
          · next r hr => exact Or.inr ⟨hu, r, hr, by cases h; rfl⟩
          · cases h
        · next hu => exact Or.inl ⟨by simpa using hu, by cases h; rfl⟩
  · next hroom =>
    split at h
    · cases h
    · next r hr => exact Or.inr ⟨hroom, r, hr, by cases h; rfl⟩

/-- **C07 (monotone).** In the merged definition of a known room every stored admin entry, every
    stored placing reference and every stored group with all its user, user-admin and right entries
    and their placing references is present, unchanged (`rowEq`/`edgeEq`: every signed field). -/
theorem C07_monotone (d : Defects) (room : RoomT) (old cand merged : RoomNode) (upd : Bool)
    (h : prepareWithHistory d room old cand = some (.ok (merged, upd))) :
    (∀ o ∈ old.adminNodes, ∃ y ∈ merged.adminNodes, rowEq y o = true) ∧
    (∀ o ∈ old.adminEdges, ∃ y ∈ merged.adminEdges, edgeEq y o = true) ∧
    (∀ o ∈ old.authEdges, ∃ y ∈ merged.authEdges, edgeEq y o = true) ∧
    (∀ o ∈ old.authNodes, ∃ a ∈ merged.authNodes, GroupCovers o a) :=
  let m := prepareWithHistory_sound h
  ⟨m.oldAdmins, m.oldAdminEdges, m.oldAuthEdges, m.oldGroups⟩

/-- a stored entry that the candidate's list carries (first row with that id) with another content makes the merge of
    that list (`mergeRows`) fail, wherever the entry stands in the stored list -/
theorem C07_altered_entry_refused (old cand : List SRow) (o c : SRow) (ho : o ∈ old)
    (hc : cand.find? (·.id = o.id) = some c) (hne : rowEq c o = false) (hd : old.head? = some o) :
    mergeRows old cand = .error .mutated :=
  mergeRows_mutated ho hc hne

/-- **C07 (entitled additions, admins).** Every admin entry of the merged definition that is new
    was authored by a key that is an admin, at the entry's date, in the loaded room as extended by
    the new admin entries that precede it (in date order); nothing but candidate and stored entries
    is in the list. -/
theorem C07_entitled_admins (d : Defects) (room : RoomT) (old cand merged : RoomNode) (upd : Bool)
    (h : prepareWithHistory d room old cand = some (.ok (merged, upd))) :
    (∀ i n, merged.adminNodes[i]? = some n → isNew old.adminNodes n = true →
      (extendAdmins old.adminNodes room (merged.adminNodes.take i)).isAdmin n.author n.mdate = true) ∧
    (∀ y ∈ merged.adminNodes, (∃ c ∈ cand.adminNodes, rowEq y c = true) ∨ ∃ o ∈ old.adminNodes, rowEq y o = true) :=
  let m := prepareWithHistory_sound h
  ⟨m.entitledAdmins, m.onlyAdmins⟩

/-- **C07 (entitled additions, entries of a stored group).** New user-admin and right entries are
    authored by admins of the room; new user entries by an admin or by a user admin of that group
    (as extended by its new user-admin entries); stored entries are all kept. -/
theorem C07_entitled_group_entries (room : RoomT) (old new res : AuthNode) (upd : Bool)
    (h : prepareAuthWithHistory room old new = some (.ok (res, upd))) : AuthMerged room old new res :=
  prepareAuthWithHistory_sound h

/-- **C07 (a group that is new to a known room).** It is the candidate's, untouched; its row and its
    right entries are authored by admins of the extended room; its user entries by a user admin of
    the group itself or by an admin of the extended room (the rule of a stored group, since
    findings/C10-new-group-users-accept-room-admin.patch). (Its user-admin entries: only with the intended check — see the witness.) -/
theorem C07_new_groups (d : Defects) (room : RoomT) (old cand merged : RoomNode) (upd : Bool)
    (h : prepareWithHistory d room old cand = some (.ok (merged, upd))) :
    ∀ a ∈ merged.authNodes, old.authNodes.any (·.node.id = a.node.id) = false →
      a ∈ cand.authNodes ∧
      (extendAdmins old.adminNodes room merged.adminNodes).isAdmin a.node.author a.node.mdate = true ∧
      ∃ au, a.parse = .ok au ∧
        (∀ n ∈ a.userNodes, au.canAdminUsers n.author n.mdate = true ∨
          (extendAdmins old.adminNodes room merged.adminNodes).isAdmin n.author n.mdate = true) ∧
        (∀ n ∈ a.rightNodes, (extendAdmins old.adminNodes room merged.adminNodes).isAdmin n.author n.mdate = true) ∧
        (d.newGroupUserAdminUnchecked = false →
          ∀ n ∈ a.userAdminNodes, (extendAdmins old.adminNodes room merged.adminNodes).isAdmin n.author n.mdate = true) := by
  intro a ha hno
  obtain ⟨h1, h2, h3⟩ := (prepareWithHistory_sound h).newGroups a ha hno
  exact ⟨h1, h2, prepareNewAuth_sound h3⟩

/-- **C07 (a room not seen before).** Accepted only if the whole candidate parses (append-only
    histories) and the author of every admin, group, user, right and user-admin entry is an admin,
    at the entry's date, in the room parsed from it — and, when the references are checked (`chk`), the author of
    every reference room → group is an admin at the reference's date. -/
theorem C07_new_room (chk : Bool) (cand : RoomNode) (room : RoomT) (h : prepareNewRoom chk cand = .ok room) :
    cand.parse = .ok room ∧
    (chk = true → ∀ e ∈ cand.authEdges, room.isAdmin e.author e.cdate = true) ∧
    (∀ n ∈ cand.adminNodes, room.isAdmin n.author n.mdate = true) ∧
    ∀ a ∈ cand.authNodes, room.isAdmin a.node.author a.node.mdate = true ∧
      (∀ n ∈ a.userNodes, room.isAdmin n.author n.mdate = true) ∧
      (∀ n ∈ a.rightNodes, room.isAdmin n.author n.mdate = true) ∧
      (∀ n ∈ a.userAdminNodes, room.isAdmin n.author n.mdate = true) := by
  unfold prepareNewRoom at h
  split at h
  · cases h
  · next r hp =>
    obtain ⟨hge, h⟩ := of_ite_ne h nofun
    obtain ⟨hall, h⟩ := of_ite_ne_right h nofun
    cases h
    simp only [Bool.and_eq_true, List.all_eq_true] at hall
    refine ⟨hp, fun hc e he => ?_, hall.1, fun a ha => ?_⟩
    · subst hc
      simp only [Bool.true_and, Bool.not_eq_true', Bool.not_eq_false] at hge
      exact List.all_eq_true.mp hge e he
    · obtain ⟨⟨⟨h1, h2⟩, h3⟩, h4⟩ := hall.2 a ha
      exact ⟨h1, h2, h3, h4⟩

/-- **C07 (decisions, before the earliest new entry).** Whatever the switches: when a candidate for a known room is
    accepted, the stored definition `old` parses to `r0`, the merged definition parses to `r` (the room that is
    installed), no list of the merged definition carries an id twice, and in `r` entries with equal key and equal date
    carry the same payload (`Room.Func` — exactly what `C07_breaks_sameDateReorder` violates), then at every date `t`
    that precedes all the entries that are new (`NewAfter`: by id, list by list; every entry of a group that is new),
    EVERY decision of `r` — who is admin, who is a member, who administers the users of which group, who holds which
    right on which entity — is the decision of `r0`. Proved from the monotonicity of the merge (`merged_past_stable`) and
    `Room.sameAt_of_sameUpTo`: decisions at `t` are a function of the set of entries dated up to `t`. -/
theorem C07_decisions_past (d : Defects) (room : RoomT) (old cand merged : RoomNode) (upd : Bool)
    (h : prepareWithHistory d room old cand = some (.ok (merged, upd)))
    (r0 r : RoomT) (hpo : old.parse = .ok r0) (hpm : merged.parse = .ok r) (hd : merged.idsDistinct = true)
    (hf : r.Func) (t : Int) (hnew : NewAfter old merged t) : r.SameAt r0 t :=
  let m := prepareWithHistory_sound h
  merged_past_stable m.oldAdmins m.oldGroups hpo hpm hd hf hnew

/-- **C07 (decisions are a function of the SET of entries).** The decisions of a room `r` parsed from a definition
    depend only on which entries its lists hold: any well-formed room `s` holding the same entries, in whatever order
    they were inserted, decides the same at every date, provided equal key and date mean equal payload in `r`. Which
    entries the room parsed from a merged definition holds is `C07_decisions_entries` (with `C07_monotone`,
    `C07_entitled_*`). The definition enters only through `r.WF`. -/
theorem C07_decisions_exact (merged : RoomNode) (r s : RoomT) (hpm : merged.parse = .ok r) (hf : r.Func) (ws : s.WF)
    (hadm : ∀ v, v ∈ r.admins ↔ v ∈ s.admins)
    (h1 : ∀ a ∈ r.auths, ∃ b ∈ s.auths, b.id = a.id ∧ (∀ v, v ∈ a.users ↔ v ∈ b.users) ∧
      (∀ v, v ∈ a.userAdmins ↔ v ∈ b.userAdmins) ∧ (∀ v, v ∈ a.rights ↔ v ∈ b.rights))
    (h2 : ∀ b ∈ s.auths, ∃ a ∈ r.auths, b.id = a.id ∧ (∀ v, v ∈ a.users ↔ v ∈ b.users) ∧
      (∀ v, v ∈ a.userAdmins ↔ v ∈ b.userAdmins) ∧ (∀ v, v ∈ a.rights ↔ v ∈ b.rights))
    (t : Int) : r.SameAt s t := by
  refine Discret.Room.Room.sameAt_of_sameUpTo (RoomNode.parse_wf hpm) ws hf (fun v _ => hadm v) ?_ ?_
  · intro a ha
    obtain ⟨b, hb, hid, e1, e2, e3⟩ := h1 a ha
    exact Or.inl ⟨b, hb, hid, fun v _ => e1 v, fun v _ => e2 v, fun v _ => e3 v⟩
  · intro b hb
    obtain ⟨a, ha, hid, e1, e2, e3⟩ := h2 b hb
    exact Or.inl ⟨a, ha, hid, fun v _ => e1 v, fun v _ => e2 v, fun v _ => e3 v⟩

/-- the entries of the installed room are the entries of the merged rows, each of which is a stored row (unchanged)
    or a row of the candidate that is new to its list -/
theorem C07_decisions_entries (d : Defects) (room : RoomT) (old cand merged : RoomNode) (upd : Bool)
    (h : prepareWithHistory d room old cand = some (.ok (merged, upd))) (r : RoomT) (hpm : merged.parse = .ok r) :
    r.admins = merged.adminNodes.filterMap userOf ∧
    (∀ y ∈ merged.adminNodes, (∃ c ∈ cand.adminNodes, rowEq y c = true) ∨ ∃ o ∈ old.adminNodes, rowEq y o = true) ∧
    ∀ au, au ∈ r.auths ↔ ∃ a ∈ merged.authNodes, a.parse = .ok au :=
  ⟨RoomNode.parse_admins hpm, (prepareWithHistory_sound h).onlyAdmins, RoomNode.parse_auths hpm⟩

/-! ## 2. the full statement needs the intended checks (`Defects.none`) -/

/-- **C07 (authored for that room and that place).** With the intended checks a candidate is accepted
    only if every entry is attached to its list by a placing reference signed by the entry's own
    author, with the list's label and the owner's entity — a reference binds (owner row, label,
    entry), so an entry cannot be moved to another list, group or room by a third party —, every group is
    attached to the room by a reference with the groups' label signed by an admin at the reference's date (a group
    row is re-signed by whoever updates the group, so its reference is tied to the admins, not to the row's author),
    no list carries two rows with one id, and the
    room row that is written is the candidate's only when it equals the stored one or is a newer
    `sys.Room` row signed by an admin, and the stored one otherwise. -/
theorem C07_bound_to_place (s s' : RStore) (cand : RoomNode) (h : accept Defects.none s cand = .ok s') :
    cand.placingOk = true ∧ cand.idsDistinct = true ∧
    (∀ r, s.rooms.find? (·.id = cand.node.id) = none → cand.parse = .ok r →
      ∀ e ∈ cand.authEdges, r.isAdmin e.author e.cdate = true) ∧
    ∀ room old merged upd, s.rooms.find? (·.id = cand.node.id) = some room → readBack false s cand.node.id = some old →
      prepareWithHistory Defects.none room old cand = some (.ok (merged, upd)) →
      (∀ e ∈ cand.authEdges, (extendAdmins old.adminNodes room merged.adminNodes).isAdmin e.author e.cdate = true) ∧
      ((rowEq merged.node cand.node = true ∧
        (rowEq cand.node old.node = true ∨
         (old.node.mdate < cand.node.mdate ∧ cand.node.ent = 100 ∧ room.isAdmin cand.node.author cand.node.mdate = true))) ∨
      (rowEq merged.node old.node = true ∧ ¬ old.node.mdate < cand.node.mdate)) := by
  obtain ⟨_, _, _, hp, hi, _⟩ := accept_ok h
  refine ⟨hp rfl, hi rfl, ?_, ?_⟩
  · intro r hnone hparse
    rcases (C07_accept_shape _ _ _ _ h).2.2 with ⟨room, _, hsome, _⟩ | ⟨_, r', hprep, _⟩
    · rw [hnone] at hsome; cases hsome
    · obtain ⟨hp, hg, _⟩ := C07_new_room _ _ _ hprep
      rw [hparse] at hp; cases hp
      exact hg rfl
  · intro room old merged upd _ _ hprep
    exact ⟨(prepareWithHistory_sound hprep).groupEdges rfl, (prepareWithHistory_sound hprep).roomRow rfl⟩

/-- **C07_partial.** On every candidate that passes `candGuard` = `candGuardD Defects.asImplemented` — while
    `placingAuthorUnchecked` is on: every entry is placed by a reference signed by the entry's own author
    (`placingOk`); while `placingEdgeUnchecked` is on: moreover every placing reference carries its list's label and its
    owner's entity and every group is attached by a reference signed by an admin (`placingGuard`) — the code as written
    decides exactly as the intended checks do, so sections 1 and 2 apply to it. What is missing relative to the full
    statement is exactly the `placingEdge` witnesses of section 3 that are still accepted under the switches of
    `Defects.asImplemented` (and, whatever the switches, the order of same-date entries: `C07_breaks_sameDateReorder`). -/
theorem C07_partial (s : RStore) (cand : RoomNode) (g : candGuard s cand = true) :
    accept Defects.asImplemented s cand = accept Defects.none s cand :=
  accept_congr_D rfl rfl rfl rfl g

/-- **C07, the code as it is decides as the intended checks do on every candidate whose placing references are
    signed by the entries' authors** (`placingOk`) — the only guard left since findings/C07-placing-references-v2.patch:
    labels, source entities and the references room → group are checked by the code itself. The guard cannot go: the
    repository's own test `room_node::tests::invalid` requires a placing reference re-signed by an unrelated key to be
    accepted; what it still lets through is `C07_breaks_placingEdge_crossList` / `_crossRoom` (under `afterLabelFix`). -/
theorem C07_full_asImplemented (s : RStore) (cand : RoomNode) (g : cand.placingOk = true) :
    accept Defects.asImplemented s cand = accept Defects.none s cand :=
  C07_partial s cand (by simp [candGuard, candGuardD, Defects.asImplemented, g])

/-- the same for /repo before the fix 77018f3, under the stronger guard that was needed then
    (room row unchanged or newer and signed by an admin; no new group carrying user-admin entries) -/
theorem C07_partial_beforeFixes (s : RStore) (cand : RoomNode) (g : candGuardBeforeFixes s cand = true) :
    accept Defects.beforeFixesOldestFirst s cand = accept Defects.none s cand := by
  unfold candGuardBeforeFixes at g
  simp only [Bool.and_eq_true] at g
  obtain ⟨⟨⟨gpl, gp⟩, gi⟩, gm⟩ := g
  refine accept_congr rfl rfl (Or.inr gpl) (Or.inr gp) (Or.inr gi) fun room old hroom hold => ?_
  rw [hroom, hold] at gm
  simp only [Bool.and_eq_true, List.all_eq_true, Bool.or_eq_true, List.isEmpty_iff, decide_eq_true_eq, and_assoc] at gm
  refine ⟨Or.inr gm.1, Or.inr fun room1 _ a ha hno => ?_⟩
  rcases gm.2 a ha with h | h
  · rw [hno] at h; cases h
  · rw [h]; rfl

/-! ## 3. the code as written: witnesses of the deviations -/

def row (id ent : Nat) (t : Int) (by_ : Key) (body : Body) : SRow :=
  { id, ent, room := none, cdate := t, mdate := t, author := by_, body, sigOk := true }

def edge (src srcEnt label dst : Nat) (t : Int) (by_ : Key) : PEdge :=
  { src, srcEnt, label, dst, cdate := t, author := by_, sigOk := true }

/-- group 102 of room 10: `A` own rows; user key 2 (row 105), user admin key 3 (row 104); all by admin key 0 -/
def g102 : AuthNode :=
  { node := row 102 101 100 0 (.other 1),
    rightEdges := [edge 102 101 33 103 100 0], rightNodes := [row 103 103 100 0 (.right 1 true false)],
    userEdges := [edge 102 101 34 105 100 0], userNodes := [row 105 102 100 0 (.user 2 true)],
    userAdminEdges := [edge 102 101 35 104 100 0], userAdminNodes := [row 104 102 100 0 (.user 3 true)],
    needUpdate := true }

/-- room 10 as its admin (key 0) created it -/
def room10 : RoomNode :=
  { node := row 10 100 100 0 (.other 0),
    adminEdges := [edge 10 100 32 101 100 0], adminNodes := [row 101 102 100 0 (.user 0 true)],
    authEdges := [edge 10 100 33 102 100 0], authNodes := [g102] }

def emptyStore : RStore := { rooms := [], nodes := [], edges := [] }

def stateOf : Verdict → RStore
  | .ok s => s
  | _ => emptyStore

/-- the instance after it received room 10 -/
def w0 : RStore := stateOf (accept Defects.none emptyStore room10)

def loaded (s : RStore) (id : Nat) : RoomT :=
  (s.rooms.find? (·.id = id)).getD (Discret.Room.Room.empty 0 0)

/-- the switches after findings/C07-placing-references-v2.patch: labels, source entities and the references
    room → group are checked, the author of an entry's placing reference is not (pinned by `room_node::tests::invalid`) -/
def afterLabelFix : Defects := { Defects.beforeFix with placingEdgeUnchecked := false }

/-- **cross-list replay (#22).** The entry "key 2 is a *user* of group 102", signed by the admin, is
    listed among the *admins* with a placing reference signed by key 6 (anybody): accepted, key 2 is
    now an admin of the room — also once labels are checked (`afterLabelFix`): the reference carries the admins' label,
    only its author is wrong. The intended check refuses the candidate. -/
theorem C07_breaks_placingEdge_crossList :
    let cand := { room10 with adminNodes := room10.adminNodes ++ [row 105 102 100 0 (.user 2 true)],
                              adminEdges := room10.adminEdges ++ [edge 10 100 32 105 100 6] }
    (loaded w0 10).isAdmin 2 200 = false ∧
    (loaded (stateOf (accept Defects.beforeFix w0 cand)) 10).isAdmin 2 200 = true ∧
    (loaded (stateOf (accept afterLabelFix w0 cand)) 10).isAdmin 2 200 = true ∧
    accept Defects.none w0 cand = .err .inconsistent := by
  decide +kernel

/-- room 40 of the same admin: key 6 was made an admin *there* (row 201, signed by key 0) -/
def room40 : RoomNode :=
  { node := row 40 100 100 0 (.other 0),
    adminEdges := [edge 40 100 32 200 100 0, edge 40 100 32 201 300 0],
    adminNodes := [row 200 102 100 0 (.user 0 true), row 201 102 300 0 (.user 6 true)],
    authEdges := [], authNodes := [] }

def w1 : RStore := stateOf (accept Defects.none w0 room40)

/-- **cross-room replay (#22).** The admin entry of room 40 is listed among the admins of room 10
    with a reference signed by key 6: key 6 becomes an admin of room 10 (also under `afterLabelFix`). -/
theorem C07_breaks_placingEdge_crossRoom :
    let cand := { room10 with adminNodes := room10.adminNodes ++ [row 201 102 300 0 (.user 6 true)],
                              adminEdges := room10.adminEdges ++ [edge 10 100 32 201 300 6] }
    (loaded w1 10).isAdmin 6 400 = false ∧
    (loaded (stateOf (accept Defects.beforeFix w1 cand)) 10).isAdmin 6 400 = true ∧
    (loaded (stateOf (accept afterLabelFix w1 cand)) 10).isAdmin 6 400 = true ∧
    accept Defects.none w1 cand = .err .inconsistent := by
  decide +kernel

/-- **label ignored (#22).** User admin key 3 may add users. It adds the entry "key 5 is a user"
    (row 110, signed by key 3) to the users list — with a placing reference that carries the
    *user-admin* label 35. Accepted as a user; stored under label 35; the next accepted update reads it
    back as a user admin: key 5 administers the users of the group although no admin ever signed that. -/
theorem C07_breaks_placingEdge_label :
    let cand1 := { room10 with authNodes := [{ g102 with userNodes := g102.userNodes ++ [row 110 102 200 3 (.user 5 true)],
                                                          userEdges := g102.userEdges ++ [edge 102 101 35 110 200 3] }] }
    let s1 := stateOf (accept Defects.beforeFix w0 cand1)
    let cand2 := { room10 with authNodes := [{ g102 with userNodes := g102.userNodes ++ [row 111 102 300 0 (.user 1 true)],
                                                          userEdges := g102.userEdges ++ [edge 102 101 34 111 300 0] }] }
    let s2 := stateOf (accept Defects.beforeFix s1 cand2)
    (loaded s1 10).auths.any (·.canAdminUsers 5 400) = false ∧
    (loaded s2 10).auths.any (·.canAdminUsers 5 400) = true ∧
    accept afterLabelFix w0 cand1 = .err .inconsistent ∧
    accept Defects.none w0 cand1 = .err .inconsistent := by
  decide +kernel

/-- group 402 of room 40 (same admin, key 0, who is also its user admin): `A` own and all rows for user key 6 -/
def g402 : AuthNode :=
  { node := row 402 101 100 0 (.other 1),
    rightEdges := [edge 402 101 33 403 100 0], rightNodes := [row 403 103 100 0 (.right 1 true true)],
    userEdges := [edge 402 101 34 405 100 0], userNodes := [row 405 102 100 0 (.user 6 true)],
    userAdminEdges := [edge 402 101 35 404 100 0], userAdminNodes := [row 404 102 100 0 (.user 0 true)], needUpdate := true }

/-- **a whole group replayed into another room (#22).** Group 402 — signed by the admin for room 40, with its
    entries properly placed in it by the admin — is attached to room 10 by a reference signed by key 6: key 6 may
    write `A` rows in room 10. The intended check refuses the candidate: the reference room → group is not signed by
    an admin of room 10. -/
theorem C07_breaks_placingEdge_groupReplay :
    let cand := { room10 with authNodes := room10.authNodes ++ [g402],
                              authEdges := room10.authEdges ++ [edge 10 100 33 402 100 6] }
    (loaded w0 10).can 6 1 400 .mutateAll = false ∧
    (loaded (stateOf (accept Defects.beforeFix w0 cand)) 10).can 6 1 400 .mutateAll = true ∧
    accept afterLabelFix w0 cand = .err .notAuthorised ∧
    accept Defects.none w0 cand = .err .notAuthorised := by
  decide +kernel

/-- **room row replaced unchecked — fixed in /repo 77018f3, kept as a regression witness about
    `Defects.beforeFixes`.** A candidate whose room row is signed by key 6 and claims entity `B` (2),
    together with one honest new user entry, was accepted; the stored room row was overwritten;
    `RoomNode::read` no longer found the room and every later definition — here the honest one — was
    refused with "the room exists should have an existing old_room_node". The code as it is now
    refuses the candidate, as the intended checks do. -/
theorem C07_breaks_roomRowUnchecked :
    let cand := { room10 with node := row 10 2 700 6 (.other 0),
                              authNodes := [{ g102 with userNodes := g102.userNodes ++ [row 111 102 300 0 (.user 1 true)],
                                                         userEdges := g102.userEdges ++ [edge 102 101 34 111 300 0] }] }
    let s1 := stateOf (accept Defects.beforeFixes w0 cand)
    (readBack false w0 10).isSome = true ∧ readBack false s1 10 = none ∧
    accept Defects.beforeFixes s1 room10 = .err .noHistory ∧
    accept Defects.asImplemented w0 cand = .err .notAuthorised ∧
    accept Defects.none w0 cand = .err .notAuthorised := by
  decide +kernel

/-- **#33: user-admin entries of a new group were not checked — fixed in /repo 77018f3, kept as a
    regression witness about `Defects.beforeFixes`.** Admin key 0 signs a new, empty group 120 with an
    `A` right. A relaying peer adds to it the entries "key 6 is a user admin" and "key 6 is a user",
    both signed by key 6 itself: it was accepted and key 6 could write `A` rows in the room. The code
    as it is now refuses the candidate. -/
theorem C07_breaks_newGroupUserAdminUnchecked :
    let g : AuthNode :=
      { node := row 120 101 300 0 (.other 1),
        rightEdges := [edge 120 101 33 121 300 0], rightNodes := [row 121 103 300 0 (.right 1 true false)],
        userEdges := [edge 120 101 34 123 300 6], userNodes := [row 123 102 300 6 (.user 6 true)],
        userAdminEdges := [edge 120 101 35 122 300 6], userAdminNodes := [row 122 102 300 6 (.user 6 true)],
        needUpdate := true }
    let cand := { room10 with authNodes := room10.authNodes ++ [g],
                              authEdges := room10.authEdges ++ [edge 10 100 33 120 300 0] }
    (loaded w0 10).can 6 1 400 .mutateSelf = false ∧
    (loaded (stateOf (accept Defects.beforeFixes w0 cand)) 10).can 6 1 400 .mutateSelf = true ∧
    accept Defects.asImplemented w0 cand = .err .notAuthorised ∧
    accept Defects.none w0 cand = .err .notAuthorised := by
  decide +kernel

/-- **same-date entries re-ordered.** The admin enabled then disabled key 2 within one millisecond
    (rows 130, 131 at date 200): key 2 is disabled. A peer relays the definition with the two entries in
    the other order plus one honest new entry: every entry is authentic and entitled, nothing is
    removed — and key 2 is enabled again, because the entry listed last wins among equal dates. -/
theorem C07_breaks_sameDateReorder :
    let en := row 130 102 200 0 (.user 2 true)
    let dis := row 131 102 200 0 (.user 2 false)
    let gg (l : List SRow) (extra : List SRow) (extraE : List PEdge) : AuthNode :=
      { g102 with userNodes := g102.userNodes ++ l ++ extra,
                  userEdges := g102.userEdges ++ [edge 102 101 34 130 200 0, edge 102 101 34 131 200 0] ++ extraE }
    let s1 := stateOf (accept Defects.asImplemented w0 { room10 with authNodes := [gg [en, dis] [] []] })
    let cand := { room10 with authNodes := [gg [dis, en] [row 132 102 300 0 (.user 1 true)] [edge 102 101 34 132 300 0]] }
    let s2 := stateOf (accept Defects.asImplemented s1 cand)
    (loaded s1 10).isUserValidAt 2 250 = false ∧ (loaded s2 10).isUserValidAt 2 250 = true ∧
    accept Defects.none s1 cand = accept Defects.asImplemented s1 cand := by
  decide +kernel

/-- **the stored definition is trusted (chain with C02).** Whatever references the tables hold
    from the room row are read back as "stored" entries and merged without any check. A plain user
    (key 2) who got a forged `sys.UserAuth` row (row 300, signed by itself: "key 2, enabled") and a
    reference room-row -[32]-> 300 into the tables is an admin of the room after the next honest update —
    with the intended checks of C07 as well: the hole is on the C02 side. Data synchronisation let such rows in
    (C02 #21: the source row of a reference is not checked; a wildcard right covered the system entities) until
    /repo 4dd7eb7 refused rows and references of the definition entities (`C02_breaks_authEntityUnchecked`). -/
theorem C07_breaks_storedDefinitionTrusted :
    let polluted : RStore :=
      { w0 with nodes := w0.nodes ++ [{ row 300 102 200 2 (.user 2 true) with room := some 10 }],
                edges := w0.edges ++ [edge 10 100 32 300 200 2] }
    let upd := { room10 with authNodes := [{ g102 with userNodes := g102.userNodes ++ [row 111 102 300 0 (.user 1 true)],
                                                        userEdges := g102.userEdges ++ [edge 102 101 34 111 300 0] }] }
    (loaded polluted 10).isAdmin 2 400 = false ∧
    (loaded (stateOf (accept Defects.asImplemented polluted upd)) 10).isAdmin 2 400 = true ∧
    (loaded (stateOf (accept Defects.none polluted upd)) 10).isAdmin 2 400 = true := by
  decide +kernel

/-- **two rows with one id in a list — fixed in /repo 846341e, kept as a regression witness about
    `Defects.beforeFixes`.** The candidate's admin list carries the stored admin entry (row 101, signed
    by key 0) and, after it, a second row with the same id 101 signed by key 5: "key 5 is an admin". The
    merge compares only the first row with id 101 with the stored entry, and a row whose id is stored is
    never judged as a new entry: together with one honest new user entry (so that the definition is
    written) the candidate was accepted and key 5 — an outsider — was an admin of the loaded room.
    The code as it is now refuses the candidate, as the intended check does. -/
theorem C07_breaks_duplicateIdsUnchecked :
    let cand := { room10 with adminNodes := room10.adminNodes ++ [row 101 102 350 5 (.user 5 true)],
                              adminEdges := room10.adminEdges ++ [edge 10 100 32 101 350 5],
                              authNodes := [{ g102 with userNodes := g102.userNodes ++ [row 111 102 300 0 (.user 1 true)],
                                                         userEdges := g102.userEdges ++ [edge 102 101 34 111 300 0] }] }
    (loaded w0 10).isAdmin 5 400 = false ∧
    (loaded (stateOf (accept Defects.beforeFixes w0 cand)) 10).isAdmin 5 400 = true ∧
    accept { Defects.beforeFixes with duplicateIdsUnchecked := false } w0 cand = .err .inconsistent ∧
    accept Defects.asImplemented w0 cand = .err .inconsistent ∧
    accept Defects.none w0 cand = .err .inconsistent := by
  decide +kernel

/-- **#4 the stored definition was replayed newest first — fixed in /repo f7a29ff, kept as a regression
    witness.** After an honest update that disables user key 2 (a second entry for that key), the
    definition read back from the tables no longer parsed ("A more recent User definition exists"):
    the instance could not restart and no peer could import the room. Read oldest first, it parses and
    decides as the loaded room does. -/
theorem C07_breaks_newestFirstRead :
    let upd := { room10 with authNodes := [{ g102 with userNodes := g102.userNodes ++ [row 160 102 300 0 (.user 2 false)],
                                                        userEdges := g102.userEdges ++ [edge 102 101 34 160 300 0] }] }
    let s1 := stateOf (accept Defects.asImplemented w0 upd)
    ((readBack true s1 10).map fun rn => match rn.parse with | .ok _ => 0 | .error (.room .invalidUserDate) => 1 | .error _ => 2) = some 1 ∧
    ((readBack false s1 10).map fun rn => match rn.parse with | .ok r => some (r.isUserValidAt 2 400) | .error _ => none) = some (some false) ∧
    (loaded s1 10).isUserValidAt 2 400 = false ∧ (loaded s1 10).isUserValidAt 2 200 = true := by
  decide +kernel

/-! ## 4. non-vacuity -/

-- the initial definition is accepted and loaded; an honest update (a user added by the user admin,
-- a newer group row and a right by the admin) passes the guard, is accepted by both settings, is
-- written, and read back
def honestUpdate : RoomNode :=
  { room10 with authNodes := [{ g102 with node := { row 102 101 100 0 (.other 2) with mdate := 500 },
                                           userNodes := g102.userNodes ++ [row 140 102 300 3 (.user 1 true)],
                                           userEdges := g102.userEdges ++ [edge 102 101 34 140 300 3],
                                           rightNodes := g102.rightNodes ++ [row 141 103 400 0 (.right 2 true true)],
                                           rightEdges := g102.rightEdges ++ [edge 102 101 33 141 400 0] }] }

example : (accept Defects.asImplemented emptyStore room10) = .ok w0 ∧ w0.rooms.length = 1 ∧ w0.nodes.length = 6 := by decide +kernel
example : candGuard w0 honestUpdate = true := by decide
example : ∃ s', accept Defects.none w0 honestUpdate = .ok s' ∧ s'.nodes.length = 8 ∧
    (loaded s' 10).can 1 2 450 .mutateAll = true ∧ (loaded w0 10).can 1 2 450 .mutateAll = false :=
  ⟨stateOf (accept Defects.none w0 honestUpdate), by decide +kernel⟩
-- an older room row (a peer that lags behind) does not hurt: the stored row is kept, the new entry accepted
example : ∃ s', accept Defects.asImplemented w0 { honestUpdate with node := { row 10 100 100 0 (.other 0) with mdate := 50 } } = .ok s' ∧
    (readBack false s' 10).map (·.node.mdate) = some 100 :=
  ⟨stateOf (accept Defects.asImplemented w0 { honestUpdate with node := { row 10 100 100 0 (.other 0) with mdate := 50 } }), by decide +kernel⟩
-- a user entry signed by a plain user is refused, an altered stored entry is refused
example : accept Defects.asImplemented w0
    { room10 with authNodes := [{ g102 with userNodes := g102.userNodes ++ [row 150 102 300 2 (.user 5 true)],
                                             userEdges := g102.userEdges ++ [edge 102 101 34 150 300 2] }] }
    = .err .notAuthorised := by decide +kernel
example : accept Defects.asImplemented w0
    { room10 with adminNodes := [row 101 102 100 0 (.user 0 false)] } = .err .mutated := by decide
-- a definition that is re-sent unchanged is accepted and changes nothing
example : accept Defects.asImplemented w0 room10 = .ok w0 := by decide +kernel


-- the reference room → group is tied to the admins, not to the group row's author: room 11 has two admins (keys 0
-- and 4); key 0 created group 102, key 4 re-signed its row later (an update of the group); the intended checks
-- accept the definition as a new room and as an update of the stored one
def room11 : RoomNode :=
  { room10 with adminEdges := room10.adminEdges ++ [edge 10 100 32 106 100 0],
                adminNodes := room10.adminNodes ++ [row 106 102 100 0 (.user 4 true)] }
example : (match accept Defects.none emptyStore
      { room11 with authNodes := [{ g102 with node := { row 102 101 100 4 (.other 2) with mdate := 500 } }] } with
    | .ok s' => (loaded s' 10).isAdmin 4 300 | _ => false) = true := by decide
example : (match accept Defects.none (stateOf (accept Defects.none emptyStore room11))
      { room11 with authNodes := [{ g102 with node := { row 102 101 100 4 (.other 2) with mdate := 500 },
                                               userNodes := g102.userNodes ++ [row 140 102 300 3 (.user 1 true)],
                                               userEdges := g102.userEdges ++ [edge 102 101 34 140 300 3] }] } with
    | .ok s' => (loaded s' 10).isUserValidAt 1 350 | _ => false) = true := by decide +kernel

-- the decisions clause on the honest update of `w0`: the stored definition, the merged one, the rooms they parse to
def oldW0 : RoomNode := (readBack false w0 10).getD room10
def mergedH : RoomNode :=
  match prepareWithHistory Defects.none (loaded w0 10) oldW0 honestUpdate with
  | some (.ok (m, _)) => m
  | _ => room10
def parsed (r : RoomNode) : RoomT := match r.parse with | .ok x => x | .error _ => Discret.Room.Room.empty 0 0

-- the hypotheses of `C07_decisions_past` hold there: the new entries are dated 300, 400 (and the newer group row 500),
-- so every date up to 299 qualifies and 300 does not
example : readBack false w0 10 = some oldW0 ∧
    (match prepareWithHistory Defects.none (loaded w0 10) oldW0 honestUpdate with
     | some (.ok (m, u)) => decide (m = mergedH) && u
     | _ => false) = true ∧
    (match oldW0.parse with | .ok x => decide (x = parsed oldW0) | .error _ => false) = true ∧
    (match mergedH.parse with | .ok x => decide (x = parsed mergedH) | .error _ => false) = true ∧
    mergedH.idsDistinct = true ∧ newAfterB oldW0 mergedH 299 = true ∧ newAfterB oldW0 mergedH 300 = false := by decide +kernel
-- and its conclusion: at 299 every decision of the room installed is the stored room's; at 450 they differ
example : (parsed mergedH).SameAt (parsed oldW0) 299 :=
  C07_decisions_past Defects.none (loaded w0 10) oldW0 honestUpdate mergedH true (by rfl) (parsed oldW0) (parsed mergedH)
    (by rfl) (by rfl) (by decide)
    ⟨by unfold Discret.Room.UserFunc; decide, by unfold Discret.Room.UserFunc Discret.Room.RightFunc; decide⟩ 299
    (newAfter_of_bool (by decide))
example : (parsed mergedH).can 1 2 450 .mutateAll = true ∧ (parsed oldW0).can 1 2 450 .mutateAll = false := by decide +kernel

end Discret.RoomNode
