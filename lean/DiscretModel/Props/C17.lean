import DiscretModel.Lemmas.FtsRun
import DiscretModel.Lemmas.FtsSound
import DiscretModel.Lemmas.FtsJson
/-
C17 — Full-text search returns exactly the rows whose current text matches.

Model: `Model/Fts.lean` (index = set of (slot, word) + one document record per indexed slot; the maintenance rule of
`Node::write`; slots assigned as SQLite assigns rowids; search = rows joined on slot with the index; the text of a
row = `extract_json` of its JSON). Statements quantify over every history, any number of sites, rows, words and
model versions — no bound.

How the statements are organised: ONE theorem, `C17_full_of`, for any setting `d` of the switches that describe
where the code leaves the intended behaviour, over the histories the code handles with that setting
(`admissibleRun`, `flagSafeRun`: decidable, computed along the run). Its instances:
`Defects.none` — every history is admissible: the full statement (`C17_search_exact`, `C17_flag_follows_model`);
`Defects.asImplemented` — /repo as it is (`C17_asImplemented`): each repair of /repo turns one switch off and
thereby enlarges the class of histories, without any change to the theorem.
-/
namespace Discret.Fts

/-- **C17 for any setting of the switches — searches on the entities the engine indexes.** After any history
    made of operations the code handles with the switches `d` (`Op.admissible`: deletions once the deletion
    follows the index, ingestions once synchronised rows are indexed, model versions that change the flag of an
    entity without re-indexing only while that entity has no row at the site), on every site, for every entity the
    engine indexes and every word: the search returns exactly the rows whose current text contains the word. -/
theorem C17_search_exact_of (d : Defects) (n : Nat) (ops : List Op)
    (ha : admissibleRun (init d n) ops = true) :
    ∀ s, s ∈ (runOps (init d n) ops).1.sites →
      ∀ e, s.indexOn e = true → ∀ t, search s e t = matching s e t :=
  fun _ hs e he t => search_eq_matching (((ginv_init d n).runOps ha).sinv hs) e he t

/-- the same for a search placed on the nested field `kids` of `Doc` -/
theorem C17_nested_search_exact_of (d : Defects) (n : Nat) (ops : List Op)
    (ha : admissibleRun (init d n) ops = true) :
    ∀ s, s ∈ (runOps (init d n) ops).1.sites →
      s.indexOn 0 = true → ∀ t, nsearch s t = nmatching s t :=
  fun _ hs he t => nsearch_eq_nmatching (((ginv_init d n).runOps ha).sinv hs) he t

/-- **no search fails** along such a history: the engine never meets an index entry without its document record
    (SQLite would answer "database disk image is malformed" instead of a result set) -/
theorem C17_search_answers_of (d : Defects) (n : Nat) (ops : List Op)
    (ha : admissibleRun (init d n) ops = true) :
    ∀ s, s ∈ (runOps (init d n) ops).1.sites → ∀ t, poisoned s t = false :=
  fun _ hs t => not_poisoned_w (((ginv_init d n).runOps ha).sinv hs).winv t

/-- **C17 for any setting of the switches — the full statement**: for every entity the model version in force
    DECLARES indexed (not only those the engine happens to index), after any history the code handles
    (`admissibleRun`) and whose model versions the engine's flags follow (`flagSafeRun`: any version once
    `Entity::update` copies the flag). -/
theorem C17_full_of (d : Defects) (n : Nat) (ops : List Op)
    (ha : admissibleRun (init d n) ops = true) (hf : flagSafeRun (init d n) ops = true) :
    ∀ s, s ∈ (runOps (init d n) ops).1.sites →
      ∀ e, declaredOn s.declared e = true → ∀ t, search s e t = matching s e t := by
  intro s hs e he t
  have hflag : s.indexOn = declaredOn s.declared := flagOK_runOps (flagOK_init d n) hf s hs
  exact C17_search_exact_of d n ops ha s hs e (by rw [hflag]; exact he) t

/-- **C17 — full statement, intended behaviour (`Defects.none`)**: the instance of `C17_search_exact_of` with
    every switch off, where EVERY history is admissible. After ANY history of creations, updates
    changing or removing text, deletions (followed or not by creations that reuse the slot), model versions
    toggling indexing and ingestions of new rows or newer versions, on EVERY site, for every entity the
    engine indexes and every word: the search returns exactly the rows whose current text contains the word. -/
theorem C17_search_exact (n : Nat) (ops : List Op) :
    ∀ s, s ∈ (runOps (init Defects.none n) ops).1.sites →
      ∀ e, s.indexOn e = true → ∀ t, search s e t = matching s e t :=
  C17_search_exact_of Defects.none n ops (admissibleRun_none ops _ rfl)

/-- **C17 (search placed on a nested field), intended behaviour.** After any history, a search placed on the
    sub-selection `kids` of `Doc` returns, under every parent, exactly the children whose current text contains the
    word — the child's text, never the parent's. -/
theorem C17_nested_search_exact (n : Nat) (ops : List Op) :
    ∀ s, s ∈ (runOps (init Defects.none n) ops).1.sites →
      s.indexOn 0 = true → ∀ t, nsearch s t = nmatching s t :=
  C17_nested_search_exact_of Defects.none n ops (admissibleRun_none ops _ rfl)

/-- **C17 (which entities): with `Defects.none`, "the engine indexes `e`" is "the model version in force
    declares an index for `e`"**, on every site after any history. -/
theorem C17_flag_follows_model (n : Nat) (ops : List Op) :
    ∀ s, s ∈ (runOps (init Defects.none n) ops).1.sites → s.indexOn = declaredOn s.declared :=
  flagOK_runOps (flagOK_init _ n) (flagSafeRun_of_followed ops _ rfl)

/-- the two together: **with every switch off the full statement holds after every history** (corollary of
    `C17_full_of`) -/
theorem C17_full_none (n : Nat) (ops : List Op) :
    ∀ s, s ∈ (runOps (init Defects.none n) ops).1.sites →
      ∀ e, declaredOn s.declared e = true → ∀ t, search s e t = matching s e t :=
  C17_full_of Defects.none n ops (admissibleRun_none ops _ rfl) (flagSafeRun_of_followed ops _ rfl)

/-- **C17 — /repo as it is (`Defects.asImplemented`)**: the full statement over the histories the code handles.
    Each repair of `findings/C17-*.patch` turns one switch off (`.verif.patch`) and the same theorem then covers
    deletions (locally and through synchronised deletion records, with reuse of the slot) / ingestion of new rows
    and newer versions / every model version that changes the flag of an entity while it has no row at the site.
    With the switches as they stand in `Model/Fts.lean` (the repairs are in /repo: every switch off but
    `toggleNoReindex`) one guard is left: a model version that switches the index of an entity on or off while
    rows of it exist is excluded (nothing is re-indexed: `C17_breaks_toggleNoReindex`). -/
theorem C17_asImplemented (n : Nat) (ops : List Op)
    (ha : admissibleRun (init Defects.asImplemented n) ops = true)
    (hf : flagSafeRun (init Defects.asImplemented n) ops = true) :
    ∀ s, s ∈ (runOps (init Defects.asImplemented n) ops).1.sites →
      ∀ e, declaredOn s.declared e = true → ∀ t, search s e t = matching s e t :=
  C17_full_of Defects.asImplemented n ops ha hf

/-- **C17_partial — the code as implemented, entities the ENGINE indexes.** For histories made of local creations,
    local updates (changing or removing text), model versions and searches — on any number of sites, but without
    deletions and without ingestion — the search is exact for every entity the engine indexes.
    The left alternative of the second hypothesis is the switch `toggleIgnored` of `Defects.asImplemented`. With the
    switches as they stand in `Model/Fts.lean` it is off (`Entity::update` copies the flag), the alternative is false
    and the hypothesis is `admissibleRun`: a model version must not change the flag of an entity that has rows. The
    statement is then the instance of `C17_search_exact_of` for these histories, and the first hypothesis adds nothing.
    Only where `Entity::update` ignores later flags does the left alternative hold, and the first hypothesis alone do.
    Missing for the full statement: see `C17_asImplemented` and the witnesses below. -/
theorem C17_partial (n : Nat) (ops : List Op) (hg : ∀ op, op ∈ ops → op.localOnly = true)
    (hm : Defects.asImplemented.toggleIgnored = true ∨ admissibleRun (init Defects.asImplemented n) ops = true) :
    ∀ s, s ∈ (runOps (init Defects.asImplemented n) ops).1.sites →
      ∀ e, s.indexOn e = true → ∀ t, search s e t = matching s e t :=
  C17_search_exact_of _ n ops (admissibleRun_partial hg hm)

/-- the nested search under the same guard as `C17_partial` (references between local rows included) -/
theorem C17_nested_partial (n : Nat) (ops : List Op) (hg : ∀ op, op ∈ ops → op.localOnly = true)
    (hm : Defects.asImplemented.toggleIgnored = true ∨ admissibleRun (init Defects.asImplemented n) ops = true) :
    ∀ s, s ∈ (runOps (init Defects.asImplemented n) ops).1.sites →
      s.indexOn 0 = true → ∀ t, nsearch s t = nmatching s t :=
  C17_nested_search_exact_of _ n ops (admissibleRun_partial hg hm)

/-- **C17_no_stale_hit_of — "no stale text matches", after EVERY history.** Once a row that goes takes its index
    entries with it (`deleteLeavesIndex` off: local deletions and synchronised deletion records) and `Node::write`
    removes the previous text exactly when the row is in the index (`deleteUnguarded` off) — and WHATEVER the other
    switches are: synchronised rows indexed or not, later model versions ignored or followed, with or without rows —
    after any history, on every site, for every entity (indexed or not) and every word: every row the search returns
    has the word in its current text, and the search answers (it never meets an index entry without its document
    record). What can still go wrong then is only the other half: a row whose text matches is not returned. -/
theorem C17_no_stale_hit_of (d : Defects) (hd1 : d.deleteLeavesIndex = false) (hd2 : d.deleteUnguarded = false)
    (n : Nat) (ops : List Op) :
    ∀ s, s ∈ (runOps (init d n) ops).1.sites → ∀ e t,
      (∀ k, k ∈ search s e t → k ∈ matching s e t) ∧ poisoned s t = false := by
  intro s hs e t
  have := (allW_init d n).runOps hd1 hd2 ops s hs
  exact ⟨search_sub_matching this e t, not_poisoned_w this t⟩

/-- **C17_no_stale_hit_partial — /repo as it is.** The instance for `Defects.asImplemented`: its two hypotheses are
    statements about the switches in `Model/Fts.lean` — `rfl` with the repairs
    `C17-delete-previous-text-when-indexed` and `C17-deleted-row-leaves-index` in /repo and their `.verif.patch`es
    applied (as they are), false without them (the theorem then says nothing). `_partial`: half of the property (no stale hit, no failing
    search), for every history; the other half is `C17_asImplemented`, for admissible histories. -/
theorem C17_no_stale_hit_partial (hd1 : Defects.asImplemented.deleteLeavesIndex = false)
    (hd2 : Defects.asImplemented.deleteUnguarded = false) (n : Nat) (ops : List Op) :
    ∀ s, s ∈ (runOps (init Defects.asImplemented n) ops).1.sites → ∀ e t,
      (∀ k, k ∈ search s e t → k ∈ matching s e t) ∧ poisoned s t = false :=
  C17_no_stale_hit_of Defects.asImplemented hd1 hd2 n ops

/-- **`extract_json`** (`node.rs:1070-1091`): the indexed text of a row is the strings of its JSON value at any
    depth — array elements and object VALUES, never keys, never numbers, booleans or null — in the order of the
    value, each followed by one space. -/
theorem C17_text_is_the_strings (j : Json) :
    extractJson j = (strings j).flatMap fun s => s ++ [' '] := extractJson_eq j

/-! ### where the code before the repairs breaks the full statement, and what they leave (each confirmed on the real engine)

The witnesses are stated on `Defects.beforeFix` (the code before the repairs of `findings/C17-*.patch`), and for
each switch on the setting where ONLY that switch is on. -/

/-- what a site answers / should answer for entity `e` and word `t` -/
def probe (st : State) (e : Ent) (t : Word) : List (List Nat × List Nat) :=
  st.sites.map fun s => (search s e t, matching s e t)

def onlyDelete : Defects := { Defects.none with deleteLeavesIndex := true }
def onlyIngest : Defects := { Defects.none with ingestUnindexed := true }
def onlyToggle : Defects := { Defects.none with toggleIgnored := true }
/-- the four repairs made: what stays of `Defects.beforeFix` -/
def afterFixes : Defects := { Defects.none with toggleNoReindex := true }

/-- **C17_breaks_deleteLeavesIndex** (`node.rs:297-301`, candidates 24 and 31). Row 1 ("w5") is deleted,
    its index entry stays; row 2 ("w6") is created in the slot SQLite hands out again; the engine accepts the
    second entry for the slot (no constraint error), so searching "w5" returns row 2: a stale hit. -/
theorem C17_breaks_deleteLeavesIndex :
    probe (runOps (init Defects.beforeFix 1) [.new 0 1 0 [5], .del 0 1, .new 0 2 0 [6]]).1 0 5 = [([2], [])] ∧
    probe (runOps (init onlyDelete 1) [.new 0 1 0 [5], .del 0 1, .new 0 2 0 [6]]).1 0 5 = [([2], [])] := by
  decide +kernel

/-- the same through a synchronised deletion record: site 1 holds row 1 in its highest slot, receives the
    deletion, then creates row 2 in that slot -/
theorem C17_breaks_deleteLeavesIndex_synchronised :
    probe (runOps (init onlyDelete 2) [.new 0 1 0 [5], .pull 1 0, .del 0 1, .pull 1 0, .new 1 2 0 [6]]).1 0 5
      = [([], []), ([2], [])] := by decide +kernel

theorem C17_fixed_deleteLeavesIndex :
    probe (runOps (init Defects.none 1) [.new 0 1 0 [5], .del 0 1, .new 0 2 0 [6]]).1 0 5 = [([], [])] ∧
    probe (runOps (init Defects.none 2) [.new 0 1 0 [5], .pull 1 0, .del 0 1, .pull 1 0, .new 1 2 0 [6]]).1 0 5
      = [([], []), ([], [])] := by
  decide +kernel

/-- **C17_breaks_ingestUnindexed (insert)** (`node.rs:538-568`). A row received from a peer is written
    with indexing off: site 1 holds row 1 ("w5") and does not find it. -/
theorem C17_breaks_ingestUnindexed_insert :
    probe (runOps (init Defects.beforeFix 2) [.new 0 1 0 [5], .pull 1 0]).1 0 5 = [([1], [1]), ([], [1])] ∧
    probe (runOps (init onlyIngest 2) [.new 0 1 0 [5], .pull 1 0]).1 0 5 = [([1], [1]), ([], [1])] := by decide +kernel

/-- **C17_breaks_ingestUnindexed (update)**. Site 0 indexed row 1 as "w5"; the newer version "w6" made
    on site 1 comes back through synchronisation without touching the index: on site 0 "w5" still finds
    the row (stale) and "w6" does not (missed). With that switch alone (`Node::write` looking before it deletes) the
    version takes the old entry away: "w6" is missed, "w5" is no longer found. -/
theorem C17_breaks_ingestUnindexed_update :
    let st := (runOps (init Defects.beforeFix 2) [.new 0 1 0 [5], .pull 1 0, .upd 1 1 [6], .pull 0 1]).1
    let st' := (runOps (init onlyIngest 2) [.new 0 1 0 [5], .pull 1 0, .upd 1 1 [6], .pull 0 1]).1
    (probe st 0 5).head? = some ([1], []) ∧ (probe st 0 6).head? = some ([], [1]) ∧
    (probe st' 0 5).head? = some ([], []) ∧ (probe st' 0 6).head? = some ([], [1]) := by decide +kernel

theorem C17_fixed_ingestUnindexed :
    let st := (runOps (init Defects.none 2) [.new 0 1 0 [5], .pull 1 0, .upd 1 1 [6], .pull 0 1]).1
    probe st 0 5 = [([], []), ([], [])] ∧ probe st 0 6 = [([1], [1]), ([1], [1])] := by decide +kernel

/-- **C17_breaks_toggleIgnored** (`data_model_parser.rs`, `Entity::update`). `Note` (entity 1) starts
    without index; model version 2 declares one; the engine keeps the old flag, so rows of `Note` —
    even those written afterwards — are never found. -/
theorem C17_breaks_toggleIgnored :
    let st := (runOps (init Defects.beforeFix 1) [.model 0 2, .new 0 1 1 [5]]).1
    let st' := (runOps (init onlyToggle 1) [.model 0 2, .new 0 1 1 [5]]).1
    (st.sites.map fun s => declaredOn s.declared 1) = [true] ∧ probe st 1 5 = [([], [1])] ∧
    (st'.sites.map fun s => declaredOn s.declared 1) = [true] ∧ probe st' 1 5 = [([], [1])] := by decide +kernel

theorem C17_fixed_toggleIgnored :
    probe (runOps (init Defects.none 1) [.new 0 1 1 [5], .model 0 2, .new 0 2 1 [5, 6]]).1 1 5
      = [([1, 2], [1, 2])] ∧
    -- the repair of /repo (the flag is copied): rows written after the version that declares the index are found
    probe (runOps (init afterFixes 1) [.model 0 2, .new 0 1 1 [5]]).1 1 5 = [([1], [1])] := by decide +kernel

/-- **C17_breaks_toggleNoReindex — what the four repairs leave.** `Entity::update` copies the flag and nothing
    else: (1) row 1 of `Note`, written while `Note` was declared without index, is not found once version 2
    declares one; (2) row 1 indexed as "w5", rewritten as "w6" while the index was declared off, is not found by
    "w6" once the index is declared again (nor by "w5": the rewrite took the old entry away — without the guard in
    `Node::write` it would still be found by "w5"). Missed rows only, never a stale hit: `C17_no_stale_hit_of`. -/
theorem C17_breaks_toggleNoReindex :
    probe (runOps (init afterFixes 1) [.new 0 1 1 [5], .model 0 2]).1 1 5 = [([], [1])] ∧
    (let st := (runOps (init afterFixes 1) [.model 0 2, .new 0 1 1 [5], .model 0 0, .upd 0 1 [6], .model 0 2]).1
     probe st 1 5 = [([], [])] ∧ probe st 1 6 = [([], [1])]) ∧
    (let st := (runOps (init { afterFixes with deleteUnguarded := true } 1)
        [.model 0 2, .new 0 1 1 [5], .model 0 0, .upd 0 1 [6], .model 0 2]).1
     probe st 1 5 = [([1], [])] ∧ probe st 1 6 = [([], [1])]) := by decide +kernel

/-- **C17_breaks_deleteUnguarded — why `Node::write` must look before it deletes.** On its own the switch breaks
    nothing; together with another source of disagreement between the index and the rows it turns a wrong answer
    into no answer, or keeps a stale one:
    (1) with the deletion repaired and flags that follow the model: row 1 is indexed as "w2", rewritten as "w3" while
    `Doc` is declared without index (the entry "w2" stays), then deleted — the 'delete' names "w3", the document
    record goes, the entry "w2" stays: every search for "w2" FAILS from then on; with the guard the rewrite
    removes the entry and nothing fails;
    (2) with synchronised rows unindexed: the version "w6" received for row 1 (indexed as "w5") leaves "w5" in the
    index (stale hit); with the guard the entry goes with the version (the row is then missed, not wrongly found). -/
theorem C17_breaks_deleteUnguarded :
    ((runOps (init { afterFixes with deleteUnguarded := true } 1)
        [.new 0 1 0 [2], .model 0 1, .upd 0 1 [3], .del 0 1]).1.sites.map fun s => poisoned s 2) = [true] ∧
    ((runOps (init afterFixes 1)
        [.new 0 1 0 [2], .model 0 1, .upd 0 1 [3], .del 0 1]).1.sites.map fun s => poisoned s 2) = [false] ∧
    (probe (runOps (init { onlyIngest with deleteUnguarded := true } 2)
        [.new 0 1 0 [5], .pull 1 0, .upd 1 1 [6], .pull 0 1]).1 0 5).head? = some ([1], []) ∧
    (probe (runOps (init onlyIngest 2)
        [.new 0 1 0 [5], .pull 1 0, .upd 1 1 [6], .pull 0 1]).1 0 5).head? = some ([], []) := by decide +kernel

-- the engine indexes `Doc` (entity 0) from the start, on every site
example : ((init Defects.asImplemented 2).sites.map fun s => s.indexOn 0) = [true, true] := by decide +kernel

-- a history meeting the guards of `C17_asImplemented` and `C17_partial` whatever repairs have been made, with rows
-- that match, rows that stopped matching and a removed text
example : (∀ op, op ∈ [Op.new 0 1 0 [5, 6], .new 0 2 0 [6], .upd 0 1 [7], .clr 0 2, .new 0 3 0 [6, 7], .model 0 0]
      → op.localOnly = true) ∧
    admissibleRun (init Defects.asImplemented 1)
      [.new 0 1 0 [5, 6], .new 0 2 0 [6], .upd 0 1 [7], .clr 0 2, .new 0 3 0 [6, 7], .model 0 0] = true ∧
    flagSafeRun (init Defects.asImplemented 1)
      [.new 0 1 0 [5, 6], .new 0 2 0 [6], .upd 0 1 [7], .clr 0 2, .new 0 3 0 [6, 7], .model 0 0] = true ∧
    (runOps (init Defects.asImplemented 1)
      [.new 0 1 0 [5, 6], .new 0 2 0 [6], .upd 0 1 [7], .clr 0 2, .new 0 3 0 [6, 7], .model 0 0, .qall 0]).2.getLast?
      = some (.all [(0, 6, some [3]), (0, 7, some [1, 3])]) := by
  decide +kernel

-- `C17_partial` with model versions that the engine ignores (the code before the flag repair)
example : admissibleRun (init Defects.beforeFix 1)
      [.new 0 1 0 [5, 6], .new 0 2 1 [6], .model 0 3, .upd 0 1 [7], .model 0 1, .new 0 3 0 [6, 7]] = true := by decide +kernel

-- the classes of histories each repair adds (`Defects.beforeFix` with one, two, three switches turned off):
-- (a) deletions, locally, with reuse of the slot
example : admissibleRun (init { Defects.beforeFix with deleteLeavesIndex := false } 1)
      [.new 0 1 0 [5], .new 0 2 0 [6], .del 0 2, .new 0 3 0 [7], .del 0 1, .upd 0 3 [5, 7]] = true ∧
    probe (runOps (init { Defects.beforeFix with deleteLeavesIndex := false } 1)
      [.new 0 1 0 [5], .new 0 2 0 [6], .del 0 2, .new 0 3 0 [7], .del 0 1, .upd 0 3 [5, 7]]).1 0 5 = [([3], [3])] := by
  decide +kernel

-- (b) ingestion of new rows and of newer versions, both ways
example : admissibleRun (init { Defects.beforeFix with ingestUnindexed := false } 2)
      [.new 0 1 0 [5], .new 0 2 0 [6], .pull 1 0, .upd 1 1 [6, 7], .new 1 3 0 [5], .pull 0 1] = true ∧
    probe (runOps (init { Defects.beforeFix with ingestUnindexed := false } 2)
      [.new 0 1 0 [5], .new 0 2 0 [6], .pull 1 0, .upd 1 1 [6, 7], .new 1 3 0 [5], .pull 0 1]).1 0 6
      = [([2, 1], [2, 1]), ([2, 1], [2, 1])] := by decide +kernel

-- (a)+(b) synchronised deletion records, the slot reused by a synchronised row
example : admissibleRun (init { Defects.beforeFix with deleteLeavesIndex := false, ingestUnindexed := false } 2)
      [.new 0 1 0 [5], .pull 1 0, .del 0 1, .new 0 2 0 [6], .pull 1 0] = true ∧
    probe (runOps (init { Defects.beforeFix with deleteLeavesIndex := false, ingestUnindexed := false } 2)
      [.new 0 1 0 [5], .pull 1 0, .del 0 1, .new 0 2 0 [6], .pull 1 0]).1 0 5 = [([], []), ([], [])] := by decide +kernel

-- (c) a model version that declares an index for an entity that has no row yet, then rows of it, everything else too
example : admissibleRun (init afterFixes 2)
      [.new 0 1 0 [5], .model 0 2, .new 0 2 1 [5, 6], .model 1 2, .pull 1 0, .del 0 1, .upd 1 2 [6], .pull 0 1,
       .model 1 2] = true ∧
    flagSafeRun (init afterFixes 2)
      [.new 0 1 0 [5], .model 0 2, .new 0 2 1 [5, 6], .model 1 2, .pull 1 0, .del 0 1, .upd 1 2 [6], .pull 0 1,
       .model 1 2] = true ∧
    probe (runOps (init afterFixes 2)
      [.new 0 1 0 [5], .model 0 2, .new 0 2 1 [5, 6], .model 1 2, .pull 1 0, .del 0 1, .upd 1 2 [6], .pull 0 1]).1 1 6
      = [([2], [2]), ([2], [2])] := by decide +kernel

-- and a model version the guard refuses after the repairs: `Note` gets an index while row 1 of it exists
example : admissibleRun (init afterFixes 1) [.new 0 1 1 [5], .model 0 2] = false := by decide +kernel

-- `C17_no_stale_hit_of` on a history outside every guard, with the two repairs it needs and every other defect present
-- (unindexed synchronised rows, ignored model versions): rows are missed (site 1: row 1), none is wrongly found
example : admissibleRun (init { Defects.beforeFix with deleteLeavesIndex := false, deleteUnguarded := false } 2)
      [.new 0 1 0 [5], .new 0 2 0 [6], .pull 1 0, .upd 1 2 [7], .pull 0 1, .del 0 1, .new 0 3 0 [6], .model 0 3] = false ∧
    probe (runOps (init { Defects.beforeFix with deleteLeavesIndex := false, deleteUnguarded := false } 2)
      [.new 0 1 0 [5], .new 0 2 0 [6], .pull 1 0, .upd 1 2 [7], .pull 0 1, .del 0 1, .new 0 3 0 [6], .model 0 3]).1 0 6
      = [([3], [3]), ([], [])] ∧
    probe (runOps (init { Defects.beforeFix with deleteLeavesIndex := false, deleteUnguarded := false } 2)
      [.new 0 1 0 [5], .new 0 2 0 [6], .pull 1 0, .upd 1 2 [7], .pull 0 1, .del 0 1, .new 0 3 0 [6], .model 0 3]).1 0 5
      = [([], []), ([], [1])] := by decide +kernel

-- nested search: parent 1 ("w5") references children 2 ("w6") and 3 ("w5 w7"); the parent's own text is not what counts
example : ((runOps (init Defects.asImplemented 1)
      [.new 0 1 0 [5], .new 0 2 0 [6], .new 0 3 0 [5, 7], .link 0 1 2, .link 0 1 3, .link 0 2 1, .qn 0 5, .qn 0 6]).2.drop 6)
    = [.nhits [(1, [3]), (2, [1])], .nhits [(1, [2])]] := by decide +kernel

-- a history with everything, intended behaviour: deletion + slot reuse, ingestion both ways, a toggle
example : probe (runOps (init Defects.none 2)
      [.new 0 1 0 [5], .new 0 2 0 [6], .del 0 2, .new 0 3 0 [7], .pull 1 0, .upd 1 1 [6, 5], .pull 0 1,
       .model 0 1, .model 0 0]).1 0 6 = [([1], [1]), ([1], [1])] := by decide +kernel

-- `extract_json` on `{"a":"x","b":[1,"y",{"k":"z"},null],"c":true}`: keys, numbers, booleans and null give nothing
example : extractJson (.obj (.cons ['a'] (.str ['x']) (.cons ['b']
      (.arr (.cons (.num 1) (.cons (.str ['y']) (.cons (.obj (.cons ['k'] (.str ['z']) .nil)) (.cons .null .nil)))))
      (.cons ['c'] (.bool true) .nil)))) = "x y z ".toList := by decide +kernel

end Discret.Fts
