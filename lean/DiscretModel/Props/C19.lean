import DiscretModel.Lemmas.Handshake
import DiscretModel.Lemmas.Serve
/-
C19 — Connections are trusted only after key proof; invitations are single-use.

Model: `Model/Handshake.lean` (`initialise_connection`, the token table of `PeerManager`, the meeting
token). Statements quantify over every reply of the remote side (any key, any signature, valid or
invalid peer row, no reply), every token type, every table, every later history of the table; the last
theorems compose the handshake with the serving side of the connection (`Model/Serve.lean`, C08).
-/
namespace Discret.Handshake

/-- **C19 (key proof).** If the connection ends up bound to key `k`, then the remote side presented a
    valid peer row for `k` and a signature of THIS connection's challenge under `k`; for an allowed
    peer `k` is the key expected for the token; for an accepted invitation the invitation's signature
    verifies under `k`. -/
theorem C19_bound_only_after_proof (localKey : Key) (tt : TokenType) (c : Chal) (reply : Option Proof) (k : Key)
    (h : (initialise localKey tt c reply).bound = some k) :
    ∃ p, reply = some p ∧ p.key = k ∧ p.rowValid = true ∧ sigValid k (chalMsg c) p.sig = true ∧
      (∀ e, tt = .allowedPeer e → k = e) ∧
      (∀ inv, tt = .invite inv → sigValid k (inviteHash inv.id inv.app) inv.sign = true) := by
  rcases initialise_cases localKey tt c reply with ⟨r, _, hf⟩ | ⟨p, _, _, _, hp, hi, hrow, hsig, he, hinv⟩
  · rw [hf] at h; cases h
  · rw [hi] at h; cases h
    exact ⟨p, hp, rfl, hrow, hsig, he, hinv⟩

/-- **C19 (a failed proof yields nothing but a disconnect).** Whenever the call does not return
    `Ok(true)`, no key is bound, the connection stays as it was, nothing is sent to the remote side and
    nothing to the peer service (the caller then disconnects). -/
theorem C19_failure_yields_nothing (localKey : Key) (tt : TokenType) (c : Chal) (reply : Option Proof)
    (h : (initialise localKey tt c reply).res ≠ .ok true) :
    initialise localKey tt c reply = fail (initialise localKey tt c reply).res := by
  rcases initialise_cases localKey tt c reply with ⟨r, _, hf⟩ | ⟨_, _, _, _, _, hi, _⟩
  · rw [hf]; rfl
  · rw [hi] at h; exact absurd rfl h

/-- **C19 (replay).** An answer recorded on another connection — a signature over a different
    challenge — binds nothing: challenges are fresh per connection. -/
theorem C19_replayed_answer_rejected (localKey : Key) (tt : TokenType) (c c' : Chal) (p : Proof)
    (hfresh : c ≠ c') (hrec : p.sig.msg = chalMsg c') :
    (initialise localKey tt c (some p)).bound = none ∧ (initialise localKey tt c (some p)).res = .err := by
  have : sigValid p.key (chalMsg c) p.sig = false := by
    simp only [sigValid, Bool.and_eq_false_iff, beq_eq_false_iff_ne, ne_eq, chalMsg] at hrec ⊢
    right; rw [hrec]; exact fun h => hfresh h.symm
  simp [initialise, this, fail]

/-- **C19 (another allowed peer's valid key is refused).** -/
theorem C19_other_allowed_peer_refused (localKey e : Key) (c : Chal) (p : Proof) (h : p.key ≠ e) :
    (initialise localKey (.allowedPeer e) c (some p)).bound = none := by
  rcases initialise_cases localKey (.allowedPeer e) c (some p) with ⟨r, _, hf⟩ | ⟨p', _, _, _, hp, _, _, _, he, _⟩
  · rw [hf]; rfl
  · cases hp; exact absurd (he e rfl) h

/-- **C19 (an invitation for another application is refused and leaves the table unchanged).** -/
theorem C19_foreign_application_refused (app : Nat) (t : Table) (inv : Invite) (h : inv.app ≠ app) :
    acceptInvite app t inv = none := by
  simp [acceptInvite, h]

/-- **C19 (an invitation for another application is never usable, also after a restart).** The refused
    invitation is neither in the table nor in storage: whatever the table held, if the invitation's id
    was unknown before, no token reaches it after the refusal nor after any number of restarts. -/
theorem C19_foreign_application_never_usable (app : Nat) (t : Table) (inv : Invite) (h : inv.app ≠ app)
    (hnew : reachable t inv.id = false) (n : Nat) :
    acceptInvite app t inv = none ∧
    ∀ tok key x, lookup (Nat.repeat restart n t) tok key = some x → inviteIdOf x ≠ some inv.id := by
  refine ⟨C19_foreign_application_refused app t inv h, ?_⟩
  have hr : reachable (Nat.repeat restart n t) inv.id = false := by
    induction n with
    | zero => exact hnew
    | succ n ih => simp only [Nat.repeat]; rw [reachable_restart]; exact ih
  exact lookup_ne_invite_of_unreachable hr

/-- a restart neither revives a consumed invitation nor loses a pending one or an allowed peer -/
theorem C19_restart_preserves_entries (t : Table) (e : Token × TokenType) : e ∈ restart t ↔ e ∈ t := mem_restart

/-- **C19 (single use — full statement; holds for the code as it is since fix 7ec64bc).** Once
    `invite_accepted` has run for an invitation that was in the table once, under its own token, no
    token and no key reaches it any more: every later lookup returns something else or nothing. -/
theorem C19_invite_single_use (t : Table) (tt : TokenType) (id : Nat) (k : Key) (ptok : Token)
    (hid : inviteIdOf tt = some id) (hone : countInvite t id = 1)
    (hin : ∃ e ∈ t, e.1 = .derived id ∧ sameInvite tt e.2 = true) :
    ∀ tok key x, lookup (inviteAccepted Defects.asImplemented t tt k ptok) tok key = some x → inviteIdOf x ≠ some id :=
  lookup_ne_invite_of_unreachable (inviteAccepted_unreachable rfl hid hone hin)

/-- **C19 (single use, for ever).** … and it stays that way through ANY later history of the table —
    further invitations created, accepted (for this or another application), consumed, any number of
    restarts — in which that invitation id is not issued again: every lookup, under every token and for
    every key, returns something else or nothing. -/
theorem C19_invite_stays_consumed (app : Nat) (t : Table) (tt : TokenType) (id : Nat) (k : Key) (ptok : Token)
    (hid : inviteIdOf tt = some id) (hone : countInvite t id = 1)
    (hin : ∃ e ∈ t, e.1 = .derived id ∧ sameInvite tt e.2 = true)
    (ops : List TOp) (hav : ∀ op ∈ ops, op.avoids id) :
    ∀ tok key x, lookup (applyOps app (inviteAccepted Defects.asImplemented t tt k ptok) ops) tok key = some x →
      inviteIdOf x ≠ some id :=
  lookup_ne_invite_of_unreachable (unreachable_applyOps ops (inviteAccepted_unreachable rfl hid hone hin) hav)

/-- **C19 (only for the application it names, over any history).** Starting from the empty table (or any
    table holding only invitations of this application), after ANY sequence of table operations —
    including any number of refused submissions of invitations made for other applications and restarts —
    every accepted invitation a token resolves to names this application: a foreign invitation is never
    the token type of a handshake. -/
theorem C19_table_holds_own_application_only (app : Nat) (t : Table) (h : OwnApp app t) (ops : List TOp) :
    ∀ tok key inv, lookup (applyOps app t ops) tok key = some (.invite inv) → inv.app = app :=
  fun tok _ inv hl => ownApp_applyOps ops h (tok, .invite inv) (lookup_mem hl) inv rfl

theorem ownApp_empty (app : Nat) : OwnApp app [] := fun _ h => by cases h

/-- the hypotheses of `C19_invite_single_use` hold after `create_invite` on a table that did not know the id -/
theorem createInvite_once (t : Table) (id : Nat) (h : reachable t id = false) :
    countInvite (createInvite t id) id = 1 ∧
    ∃ e ∈ createInvite t id, e.1 = .derived id ∧ sameInvite (.ownedInvite id) e.2 = true := by
  constructor
  · rw [createInvite, count_append, count_eq_zero_iff.mpr h, count_cons,
      if_pos (show inviteIdOf (Token.derived id, TokenType.ownedInvite id).2 = some id from rfl)]; rfl
  · exact ⟨(.derived id, .ownedInvite id), List.mem_append_right _ List.mem_cons_self, rfl, beq_self_eq_true id⟩

/-- **C19_fixed_inviteRemovedUnderPeerToken** (DESIGN.md §4, site 12; regression witness of fix 7ec64bc).
    Before the fix the consumed invitation was looked for under the NEW PEER's token: it stayed in the
    table under its own token, a second peer presenting the invitation's token was again treated as its
    bearer, bound and accepted — until the process restarted. The code as it is removes it. -/
theorem C19_fixed_inviteRemovedUnderPeerToken :
    let t0 := createInvite [] 5
    let tt : TokenType := .ownedInvite 5
    let t1 := inviteAccepted Defects.beforeFix t0 tt 7 (.agreed 7)
    lookup t0 (.derived 5) 7 = some tt ∧
    -- first use: peer 7 is now an allowed peer …
    lookup t1 (.agreed 7) 7 = some (.allowedPeer 7) ∧
    -- … but the invitation is still there for anybody (here key 8) who presents its token
    lookup t1 (.derived 5) 8 = some (.ownedInvite 5) ∧
    (initialise 1 (.ownedInvite 5) 42 (some ⟨8, true, ⟨8, chalMsg 42⟩⟩)).msgs =
      [.inviteAccepted (.ownedInvite 5) 8, .connected 8] ∧
    -- with the removal under the invitation's token it is gone
    lookup (inviteAccepted Defects.asImplemented t0 tt 7 (.agreed 7)) (.derived 5) 8 = none := by
  decide +kernel

/-- **C19 (token symmetry).** Both sides of a pair derive the same token, from the commutativity of the
    key agreement (and, for the same key material on both sides, from the injectivity of `pubOf`). -/
theorem C19_token_symmetric (a b : Nat) : token a (pubOf b) = token b (pubOf a) := by
  unfold token
  by_cases h : pubOf b = pubOf a
  · have hab : b = a := pubOf_inj h
    subst hab; rfl
  · simp only [h, if_false, Ne.symm h]
    rw [dh_comm]

/-
"Tokens differ between distinct pairs" is NOT a theorem: the real token keeps 56 bits of a hash, so
distinct pairs can collide; the check samples real tokens and reports the number of collisions seen.
-/

section Composition
open Discret.Serve

/-- the only way the key of a connection's serving side is set: by the outcome of `initialise_connection`
    (`remote_verifying_key` and `conn_ready` are shared with `InboundQueryService`) -/
def connectOps (o : Outcome) : List Serve.Op :=
  match o.bound with
  | some k => [.auth k o.connReady]
  | none => []

/-- **C19 (the serving side knows exactly the proven key).** Whatever happens on the connection after the
    handshake — requests, clock, room-definition changes, data changes —, the key under which requests
    are served is the key bound by the handshake, hence (by `C19_bound_only_after_proof`) a key whose
    possession was proved on this connection's challenge. Holds for every description of the serving code. -/
theorem C19_serving_key_is_proven_key (d : Serve.Defects) (cd : Code) (own : Room.Key) (w₀ : World)
    (localKey : Key) (tt : TokenType) (c : Chal) (reply : Option Proof)
    (ops : List Serve.Op) (hno : ∀ op ∈ ops, op.isAuth = false) :
    (run d cd own (State.init w₀) (connectOps (initialise localKey tt c reply) ++ ops)).1.c.key =
      (initialise localKey tt c reply).bound := by
  rw [run_append, run_key ops _ hno]
  unfold connectOps
  cases (initialise localKey tt c reply).bound with
  | none => rfl
  | some k => rfl

/-- **C19 (a peer that fails gets nothing — also from the serving side).** If the handshake does not
    return `Ok(true)`, then after any later history of the connection no key is bound, the allowed table is
    empty and every request of every kind gets silence, a refusal or the (public) identity proof: no room
    list, no fingerprint, no data. -/
theorem C19_failed_proof_is_served_nothing (d : Serve.Defects) (cd : Code) (hg : GoodTable cd.table)
    (own : Room.Key) (w₀ : World) (hw : WInv w₀)
    (localKey : Key) (tt : TokenType) (c : Chal) (reply : Option Proof)
    (hfail : (initialise localKey tt c reply).res ≠ .ok true)
    (ops : List Serve.Op) (hno : ∀ op ∈ ops, op.isAuth = false) (q : Query) :
    let s := (run d cd own (State.init w₀) (connectOps (initialise localKey tt c reply) ++ ops)).1
    s.c.key = none ∧ s.c.allowed = [] ∧
      ((serve d cd s.w own s.c q).2 = .silent ∨ (serve d cd s.w own s.c q).2 = .refused ∨
        (serve d cd s.w own s.c q).2 = .identity) := by
  intro s
  have hb : (initialise localKey tt c reply).bound = none := by
    rw [C19_failure_yields_nothing localKey tt c reply hfail]; rfl
  have hk : s.c.key = none := hb ▸ C19_serving_key_is_proven_key d cd own w₀ localKey tt c reply ops hno
  have hi : Inv d cd.event s := run_inv (inv_init hw) _
  exact ⟨hk, hi.unauth hk, serve_unauth hg hk (hi.unauth hk)⟩

/-- **C19 (served only after key proof).** Conversely: if, at any point of the connection's life, a request
    is answered with a room list, the hardware fingerprint or data, then the remote side had presented a
    valid peer row for a key `k` together with a signature of THIS connection's challenge under `k`, `k` is
    the key the requests are served under, and it is the expected key for an allowed-peer token / the
    signer of the invitation for an accepted invitation. -/
theorem C19_served_only_after_proof (d : Serve.Defects) (cd : Code) (hg : GoodTable cd.table)
    (own : Room.Key) (w₀ : World) (hw : WInv w₀)
    (localKey : Key) (tt : TokenType) (c : Chal) (reply : Option Proof)
    (ops : List Serve.Op) (hno : ∀ op ∈ ops, op.isAuth = false) (q : Query) :
    let s := (run d cd own (State.init w₀) (connectOps (initialise localKey tt c reply) ++ ops)).1
    (serve d cd s.w own s.c q).2 ≠ .silent → (serve d cd s.w own s.c q).2 ≠ .refused →
    (serve d cd s.w own s.c q).2 ≠ .identity →
      ∃ p, reply = some p ∧ s.c.key = some p.key ∧ p.rowValid = true ∧ sigValid p.key (chalMsg c) p.sig = true ∧
        (∀ e, tt = .allowedPeer e → p.key = e) ∧
        (∀ inv, tt = .invite inv → sigValid p.key (inviteHash inv.id inv.app) inv.sign = true) := by
  intro s h1 h2 h3
  have hkey := C19_serving_key_is_proven_key d cd own w₀ localKey tt c reply ops hno
  have hi : Inv d cd.event s := run_inv (inv_init hw) _
  cases hb : (initialise localKey tt c reply).bound with
  | none =>
    rw [hb] at hkey
    rcases serve_unauth (q := q) hg hkey (hi.unauth hkey) with h | h | h
    · exact absurd h h1
    · exact absurd h h2
    · exact absurd h h3
  | some k =>
    rw [hb] at hkey
    obtain ⟨p, hp, hpk, hrow, hsig, hexp, hinv⟩ := C19_bound_only_after_proof localKey tt c reply k hb
    subst hpk
    exact ⟨p, hp, hkey, hrow, hsig, hexp, hinv⟩

end Composition

-- an honest allowed peer is bound, the own key goes through the fingerprint path, an invitation needs its creator
example : (initialise 1 (.allowedPeer 2) 9 (some ⟨2, true, ⟨2, chalMsg 9⟩⟩)).bound = some 2 := by decide
example : (initialise 1 (.allowedPeer 1) 9 (some ⟨1, true, ⟨1, chalMsg 9⟩⟩)) =
    { res := .ok true, bound := some 1, connReady := false, events := [.readyFingerprint], msgs := [] } := by decide
example : (initialise 1 (.invite ⟨3, 1, ⟨2, inviteHash 3 1⟩⟩) 9 (some ⟨2, true, ⟨2, chalMsg 9⟩⟩)).bound = some 2 ∧
    (initialise 1 (.invite ⟨3, 1, ⟨2, inviteHash 3 1⟩⟩) 9 (some ⟨4, true, ⟨4, chalMsg 9⟩⟩)).bound = none := by decide
-- the single-use hypotheses are met by a table holding other invitations and peers
example : countInvite (createInvite [(.agreed 3, .allowedPeer 3), (.derived 4, .ownedInvite 4)] 5) 5 = 1 := by decide
example : token 3 (pubOf 5) = token 5 (pubOf 3) ∧ token 3 (pubOf 3) = 7 := by decide

-- a history of the table after a consumed invitation: other invitations, a foreign one (refused), restarts
example :
    let t := inviteAccepted Defects.asImplemented (createInvite [] 5) (.ownedInvite 5) 7 (.agreed 7)
    let ops : List TOp := [.create 6, .accept ⟨8, 1, ⟨2, inviteHash 8 1⟩⟩, .accept ⟨9, 2, ⟨2, inviteHash 9 2⟩⟩, .restart,
      .accepted (.ownedInvite 6) 3 (.agreed 3), .restart]
    (∀ op ∈ ops, op.avoids 5) ∧
    lookup (applyOps 1 t ops) (.derived 5) 8 = none ∧ lookup (applyOps 1 t ops) (.derived 9) 8 = none ∧
    lookup (applyOps 1 t ops) (.derived 8) 4 = some (.invite ⟨8, 1, ⟨2, inviteHash 8 1⟩⟩) ∧
    lookup (applyOps 1 t ops) (.agreed 3) 3 = some (.allowedPeer 3) ∧ lookup (applyOps 1 t ops) (.derived 6) 4 = none := by
  decide +kernel
-- the composition: an honest peer's key reaches the serving side, a wrong signature leaves it unbound
example : connectOps (initialise 1 (.allowedPeer 2) 9 (some ⟨2, true, ⟨2, chalMsg 9⟩⟩)) = [.auth 2 true] ∧
    connectOps (initialise 1 (.allowedPeer 1) 9 (some ⟨1, true, ⟨1, chalMsg 9⟩⟩)) = [.auth 1 false] ∧
    connectOps (initialise 1 (.allowedPeer 2) 9 (some ⟨2, true, ⟨3, chalMsg 9⟩⟩)) = [] := ⟨rfl, rfl, rfl⟩

end Discret.Handshake
