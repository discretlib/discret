import DiscretModel.Lemmas.SqlCompileSub
import DiscretModel.Lemmas.SqlCompileAgg
/-
C05 — Query results equal a direct evaluation of the query over the data.

`Model/Query.lean` is the direct evaluation: `eval` is written from the meaning of the language and never
mentions SQL. That the SQL compiler of `query.rs` implements `eval` is a theorem here only for a literal model of
the compiler on three fragments (`Model/SqlGen*.lean`) under a stated, trusted semantics of the SQLite subset it
targets (`Model/SqlSem*.lean`): namespace `Discret.SqlCompile` below. That the model is the compiler, that the semantics is
SQLite's, and everything outside the fragments is decided on every run by the differential tie (`checks/C05.py`:
generated data models, data sets and queries; the compiled evaluator and the real engine must return the same JSON).

Namespace `Discret.Query` proves laws of the evaluator that make it a specification one can read — limits are
`take`/`drop`, filters are `List.filter` and commute, the result order is a sort — and the paging property, for every data
set, every query of the covered subset, every page size: no bound anywhere. Paging is proved for `first n, after(…)`;
paging backwards with `before` has no theorem.
-/
namespace Discret.Query

/-- **`first n` / `skip k` are `take` / `drop`** of the ordered list of selected rows (`first 0` = no limit). -/
theorem C05_limit_is_take_drop (d : Defects) (s : Schema) (data : Data) (fuel : Nat) (key : String) (q : Query)
    (cands : List Row) :
    evalRows d s data (fuel + 1) key q cands true =
      if q.first = 0 then (evalRows d s data (fuel + 1) key q cands false).drop q.skip
      else ((evalRows d s data (fuel + 1) key q cands false).drop q.skip).take q.first := by
  rw [evalRows_limited, limit_eq]

/-- **Filters are `List.filter`**: a row is selected (limits and cursors aside) iff it is a candidate of the
    query's entity, every mandatory sub-selection selects something for it, and it satisfies every filter. -/
theorem C05_selected_iff (d : Defects) (s : Schema) (data : Data) (fuel : Nat) (key : String) (q : Query)
    (cands : List Row) (r : Row) :
    r ∈ evalRows d s data (fuel + 1) key (fullQuery q) cands false ↔
      r ∈ cands ∧ r.ent = q.ent ∧ (∀ sel ∈ q.sels, subPresent d s data fuel key r sel = true) ∧
        ∀ f ∈ q.filters, holds d s data fuel key (fullQuery q) r f = true := by
  rw [evalRows_fullQuery, mem_sortBy, List.mem_filter]
  simp only [Bool.and_eq_true, decide_eq_true_eq, List.all_eq_true, and_assoc]

/-- **Filters commute**: the order in which the filters are written does not matter. -/
theorem C05_filters_commute (d : Defects) (s : Schema) (data : Data) (fuel : Nat) (key : String)
    (ent : Nat) (sels : List Sel) (fs gs : List Filter) (os : List Order) (first skip : Nat) (af bf : List Val)
    (cands : List Row) (lim : Bool) :
    evalRows d s data (fuel + 1) key (Query.mk ent sels (fs ++ gs) os first skip af bf) cands lim =
    evalRows d s data (fuel + 1) key (Query.mk ent sels (gs ++ fs) os first skip af bf) cands lim :=
  evalRows_filters_perm d s data fuel key ent sels List.perm_append_comm os first skip af bf cands lim

/-- **C05 (paging).** Take any query with at least one order key, any data set, any page size `n ≥ 1`.
    If the order-key tuples of the rows the query selects are pairwise different (the keys are injective on the
    matching rows) and — for the code as it is — no key of a selected row is absent, then iterating
    `first n, after(keys of the last row)` from the start yields the selected rows in result order, each exactly
    once. (The result is sorted by construction of `eval`, so different keys are strictly increasing:
    `rows_sorted`, `rows_strict_of_distinct`.) -/
theorem C05_paging (d : Defects) (s : Schema) (data : Data) (fuel : Nat) (key : String) (q : Query)
    (cands : List Row) (n : Nat) (hn : 1 ≤ n) (ho : q.orders ≠ [])
    (hdistinct : (evalRows d s data (fuel + 1) key (fullQuery q) cands false).Pairwise fun a b =>
      tupleSame q.orders (keysOf d s q.ent q.orders a) (keysOf d s q.ent q.orders b) = false)
    (hpresent : d.cursorDropsAbsentKeys = true →
      ∀ r ∈ evalRows d s data (fuel + 1) key (fullQuery q) cands false,
        ∀ k ∈ keysOf d s q.ent q.orders r, k ≠ Val.null) :
    (queryPages d s data fuel key q cands n
      ((evalRows d s data (fuel + 1) key (fullQuery q) cands false).length + 1) []).flatten =
      evalRows d s data (fuel + 1) key (fullQuery q) cands false := by
  rw [queryPages_eq_pages d s data fuel key q cands n hn ho hpresent _ [] (Or.inl rfl)]
  exact Paging.pages_from_start _ _ (tupleLt_asymm q.orders) n hn _
    (rows_strict_of_distinct d s data fuel key q cands hdistinct)

/-- for the intended behaviour absent keys are no obstacle: pairwise different key tuples suffice -/
theorem C05_paging_intended (s : Schema) (data : Data) (fuel : Nat) (key : String) (q : Query)
    (cands : List Row) (n : Nat) (hn : 1 ≤ n) (ho : q.orders ≠ [])
    (hdistinct : (evalRows Defects.none s data (fuel + 1) key (fullQuery q) cands false).Pairwise fun a b =>
      tupleSame q.orders (keysOf Defects.none s q.ent q.orders a) (keysOf Defects.none s q.ent q.orders b) = false) :
    (queryPages Defects.none s data fuel key q cands n
      ((evalRows Defects.none s data (fuel + 1) key (fullQuery q) cands false).length + 1) []).flatten =
      evalRows Defects.none s data (fuel + 1) key (fullQuery q) cands false :=
  C05_paging Defects.none s data fuel key q cands n hn ho hdistinct (fun h => absurd h (by decide))

/-- **The result is sorted**: in result order the key tuples never decrease. -/
theorem C05_result_sorted (d : Defects) (s : Schema) (data : Data) (fuel : Nat) (key : String) (q : Query)
    (cands : List Row) :
    (evalRows d s data (fuel + 1) key (fullQuery q) cands false).Pairwise fun a b =>
      tupleLt q.orders (keysOf d s q.ent q.orders b) (keysOf d s q.ent q.orders a) = false := by
  have := rows_sorted d s data fuel key q cands
  apply List.Pairwise.imp _ this
  intro a b h
  simpa [tupleLe] using h

def exSchema : Schema := [[{ kind := .int, nullable := false, dflt := none }, { kind := .int, nullable := true, dflt := none }]]
def exQuery (desc : Bool) : Query :=
  Query.mk 0 [.scalar "f0" 0, .scalar "f1" 1] [] [{ name := "f1", onAlias := false, fld := 1, desc }] 0 0 [] []

def tiedData : Data :=
  [{ id := 1, ent := 0, vals := [(0, .int 1), (1, .int 7)], refs := [] },
   { id := 2, ent := 0, vals := [(0, .int 2), (1, .int 7)], refs := [] }]

/-- **Ties** (candidate #28): with two rows that tie on every order key, paging by 1 returns the first row and
    then nothing — the second row is never visited. True of the code and of any cursor made of the order keys
    alone, hence the injectivity hypothesis of `C05_paging`. -/
theorem C05_breaks_pagingTies :
    (evalRows Defects.asImplemented exSchema tiedData 1 "E0" (fullQuery (exQuery false)) tiedData false).length = 2 ∧
    (queryPages Defects.asImplemented exSchema tiedData 0 "E0" (exQuery false) tiedData 1 3 []).flatten.length = 1 ∧
    (queryPages Defects.none exSchema tiedData 0 "E0" (exQuery false) tiedData 1 3 []).flatten.length = 1 := by
  decide

def absentData : Data :=
  [{ id := 1, ent := 0, vals := [(0, .int 1)], refs := [] },
   { id := 2, ent := 0, vals := [(0, .int 2), (1, .int 7)], refs := [] }]

/-- **Absent keys** (candidate #28): ordering descending puts the row without a key last; the code's `after`
    drops it, so paging never visits it. With the intended behaviour every row is visited. -/
theorem C05_breaks_cursorDropsAbsentKeys :
    (queryPages Defects.asImplemented exSchema absentData 0 "E0" (exQuery true) absentData 1 3 []).flatten.map (·.id) = [2] ∧
    (queryPages Defects.none exSchema absentData 0 "E0" (exQuery true) absentData 1 3 []).flatten.map (·.id) = [2, 1] := by
  decide

/-- `parents { parents { … } }`: row 3 references row 2 which references row 1 through field 1 -/
def chainSchema : Schema := [[{ kind := .int, nullable := false, dflt := none }, { kind := .arr 0, nullable := true, dflt := none }]]
def chainData : Data :=
  [{ id := 1, ent := 0, vals := [(0, .int 1)], refs := [] },
   { id := 2, ent := 0, vals := [(0, .int 2)], refs := [(1, [1])] },
   { id := 3, ent := 0, vals := [(0, .int 3)], refs := [(1, [2])] }]
def chainQuery (innerKey : String) : Query :=
  Query.mk 0 [.scalar "f0" 0,
    .sub "f1" 1 false (Query.mk 0 [.scalar "f0" 0,
      .sub innerKey 1 false (Query.mk 0 [.scalar "f0" 0] [] [] 0 0 [] [])] [] [] 0 0 [] [])]
    [{ onAlias := false, fld := 0, op := .eq, value := .int 3, isParam := false }] [] 0 0 [] []

/-- what the grandparents level of row 3 contains -/
def grand (d : Defects) (innerKey : String) : List J :=
  match eval d chainSchema chainData 8 "E0" (chainQuery innerKey) with
  | [.obj [_, (_, .arr [.obj [_, (_, .arr l)]])]] => l
  | _ => []

/-- **Nested sub-selections with the same key.** `f1 { f1 { … } }` loses the inner level in the code (the
    grandparent is not returned) while `f1 { gp: f1 { … } }` returns it; the intended behaviour returns it in
    both cases. -/
theorem C05_breaks_sameKeyShadowsParent :
    (grand Defects.asImplemented "f1").length = 0 ∧ (grand Defects.asImplemented "gp").length = 1 ∧
    (grand Defects.none "f1").length = 1 := by
  decide +kernel

def jInt : J → Option Int
  | .int i => some i
  | _ => none

def nineTen : List Row :=
  [{ id := 1, ent := 0, vals := [(0, .int 9)], refs := [] }, { id := 2, ent := 0, vals := [(0, .int 10)], refs := [] }]

/-- Regression witness (fixed by 4f128e8): **`min`/`max` compared texts** — over the stored values 9 and 10 the
    code before the fix returned `max` = 9 and `min` = 10 (the JSON texts "9" and "10" were compared);
    the code as it is gives 10 and 9. -/
theorem C05_breaks_minMaxCompareText :
    jInt (aggValue Defects.beforeFixes .max 0 nineTen) = some 9 ∧
    jInt (aggValue Defects.beforeFixes .min 0 nineTen) = some 10 ∧
    jInt (aggValue Defects.asImplemented .max 0 nineTen) = some 10 ∧
    jInt (aggValue Defects.asImplemented .min 0 nineTen) = some 9 := by
  decide

/-- Regression witness (fixed by a7dcc50): `skip 1` without `first` was refused before the fix, not any more. -/
theorem C05_breaks_skipWithoutFirst :
    refused Defects.beforeFixes exSchema 2 (Query.mk 0 [.scalar "f0" 0] [] [] 0 1 [] []) true = true ∧
    refused Defects.asImplemented exSchema 2 (Query.mk 0 [.scalar "f0" 0] [] [] 0 1 [] []) true = false := by
  decide

/-! ## The hypotheses of `C05_paging` are satisfiable by a non-trivial state -/

def distinctData : Data :=
  [{ id := 1, ent := 0, vals := [(0, .int 1), (1, .int 9)], refs := [] },
   { id := 2, ent := 0, vals := [(0, .int 2), (1, .int 7)], refs := [] },
   { id := 3, ent := 0, vals := [(0, .int 3), (1, .int 8)], refs := [] }]

example :
    (evalRows Defects.asImplemented exSchema distinctData 1 "E0" (fullQuery (exQuery false)) distinctData false).map (·.id) = [2, 3, 1] ∧
    ((queryPages Defects.asImplemented exSchema distinctData 0 "E0" (exQuery false) distinctData 2 4 []).map fun p => p.map (·.id))
      = [[2, 3], [1]] := by
  decide +kernel

example : (evalRows Defects.asImplemented exSchema distinctData 1 "E0" (fullQuery (exQuery false)) distinctData false).Pairwise
    (fun a b => tupleSame (exQuery false).orders (keysOf Defects.asImplemented exSchema 0 (exQuery false).orders a)
      (keysOf Defects.asImplemented exSchema 0 (exQuery false).orders b) = false) := by
  decide

end Discret.Query

/-! ## The SQL compiler computes the evaluator (single-entity fragment)

`Model/SqlGen.lean` is a literal model of the SQL text generation of `query.rs` for one entity selection
(scalar and `id` selections with defaults and aliases, filters, `order_by`, `first`/`skip`, `before`/`after`):
`compile` builds the statement as a small tree, `render` prints it, and on every run of the check the printed text
and the bound values are compared byte for byte with what `PreparedQueries::build` / `build_query_params`
produce. `Model/SqlSem.lean` says what SQLite computes for such a tree on a `_node` table (trusted; the rows it
predicts are compared with the real engine's on every run). The theorem below closes the gap between the two for
the code as it is (`Defects.asImplemented`): the deviations of the code (`order-ignores-default`,
`explicit-null-hides-default`, `bool-default-returned-as-number`, `null-param-filter-no-match`, cursors that
drop absent keys) are consequences of the generated SQL under that semantics, not assumptions. -/
namespace Discret.SqlCompile
open Discret.Query Discret.SqlGen Discret.SqlSem

/-- **C05 (compiler, single-entity fragment).** For every data model `s`, every data set, every query `q` of the
    fragment (`inFragment`: scalar / `id` selections with distinct keys, filters with any operator on aliases and
    fields with literal, `null` or variable values, any `order_by`, literal `first` / `skip`, `before` or `after`),
    every naming of entities and fields by the data model that is injective, every naming `vn` of the filters'
    variables and every parameter set `env` giving each variable the value the query was evaluated with:

    running the generated statement (`SqlSem.run`) on the `_node` table that stores the data set returns exactly
    the list of JSON objects the reference evaluator computes for the code as it is — same objects, same order.

    Equality is equality of lists. Where the language defines no order (no `order_by`, or rows that tie on every
    key) both sides keep the order of the data set / of the table scan; as the statement holds for every `data`,
    it holds for whatever scan order the engine uses, provided its sort is stable (that part is `SqlSem`, trusted,
    and compared with the real engine modulo permutations inside tie groups). -/
theorem C05_compile_correct (nm : Names) (s : Schema) (data : Data) (q : Query) (vn : Nat → String)
    (env : String → Val) (fuel : Nat) (rootKey : String)
    (hfrag : inFragment s q = true)
    (hent : ∀ a b, nm.entShort a = nm.entShort b → a = b)
    (hfld : ∀ a b, nm.fieldShort q.ent a = nm.fieldShort q.ent b → a = b)
    (henv : ∀ i f, q.filters[i]? = some f → f.isParam = true → env (vn i) = f.value) :
    SqlSem.run (encode nm data) (compile nm s vn q) env =
      Query.eval Defects.asImplemented s data (fuel + 2) rootKey q :=
  ((compileFrom_implements env nm s vn q [] hfrag hent hfld henv).2 _ (List.prefix_refl _)).run hfrag data fuel rootKey

/-- a query of the fragment is never refused by the engine (`refused` only concerns `skip` without `first`, fixed,
    and sub-selections) -/
theorem C05_fragment_not_refused (s : Schema) (q : Query) (fuel : Nat) (h : inFragment s q = true) :
    refused Defects.asImplemented s fuel q true = false := by
  obtain ⟨hsels, _⟩ := inFragment_parts h
  cases fuel with
  | zero => rfl
  | succ k =>
    simp only [refused, Defects.asImplemented, Bool.false_and, Bool.false_or, List.any_eq_false]
    intro sel hsel
    cases sel with
    | sub _ _ _ _ => exact absurd (hsels _ hsel) (by simp [selOk])
    | _ => simp

/-- the WHERE clause of the generated statement keeps exactly the rows of the entity that satisfy every filter and
    the cursor (the clause-level statement behind `C05_compile_correct`) -/
theorem C05_compile_where (nm : Names) (s : Schema) (q : Query) (vn : Nat → String) (env : String → Val)
    (hfrag : inFragment s q = true)
    (hent : ∀ a b, nm.entShort a = nm.entShort b → a = b)
    (hfld : ∀ a b, nm.fieldShort q.ent a = nm.fieldShort q.ent b → a = b)
    (henv : ∀ i f, q.filters[i]? = some f → f.isParam = true → env (vn i) = f.value) (r : Row) :
    whereHolds (compile nm s vn q) (bindVal env (compile nm s vn q).binds) (encodeRow nm r) =
      (decide (r.ent = q.ent) && q.filters.all (filterHolds Defects.asImplemented s q.ent r) &&
        cursorHolds Defects.asImplemented q.orders q.after q.before
          (keysOf Defects.asImplemented s q.ent q.orders r)) := by
  -- the fragment has no sub-selection whose presence the evaluator would test
  have hpres : q.sels.all (subPresent D s [] 0 "" r) = true :=
    List.all_eq_true.mpr fun sel hsel => subPresent_frag s [] 0 "" q.ent r sel ((inFragment_parts hfrag).1 sel hsel)
  refine (((compileFrom_implements env nm s vn q [] hfrag hent hfld henv).2 _ (List.prefix_refl _)).keeps [] 0 "" r).trans ?_
  rw [keep, hpres, Bool.and_true]

/-! ### the hypotheses are satisfiable by a non-trivial instance, and the printed text is the code's -/

def xs (n : Nat) : String := String.ofList (List.replicate n 'x')

theorem xs_inj (a b : Nat) (h : xs a = xs b) : a = b := by
  have := congrArg String.length h
  simpa [xs] using this

def nmEx : Names := { table := "P", entShort := fun i => xs (i + 1), fieldShort := fun _ j => xs (j + 1) }

def schemaEx : Schema :=
  [[{ kind := .int, nullable := false, dflt := none }, { kind := .str, nullable := false, dflt := some (.str ['a', 'b']) },
    { kind := .bool, nullable := true, dflt := none }]]

/-- `P(a != $p0, f2 = null, order_by(a desc, f0 asc), first 2, after("b")) { f0 a: f1 id }` -/
def queryEx : Query :=
  Query.mk 0 [.scalar "f0" 0, .scalar "a" 1, .id "id"]
    [{ onAlias := true, fld := 1, op := .ne, value := .str ['z'], isParam := true, name := "a" },
     { onAlias := false, fld := 2, op := .eq, value := .null, isParam := false, name := "f2" }]
    [{ name := "a", onAlias := true, fld := 1, desc := true }, { name := "f0", onAlias := false, fld := 0, desc := false }]
    2 0 [.str ['b']] []

def dataEx : Data :=
  [{ id := 1, ent := 0, vals := [(0, .int 1), (1, .str ['a'])], refs := [] },
   { id := 2, ent := 0, vals := [(0, .int 2)], refs := [] },
   { id := 3, ent := 0, vals := [(0, .int 3), (1, .str ['z'])], refs := [] },
   { id := 4, ent := 0, vals := [(0, .int 4), (2, .bool true)], refs := [] },
   { id := 5, ent := 0, vals := [(0, .int 5), (1, .str ['a', 'b']), (2, .null)], refs := [] }]

example : inFragment schemaEx queryEx = true := by decide

example : ∀ a b, nmEx.entShort a = nmEx.entShort b → a = b := fun a b h => by
  have := xs_inj _ _ h; omega

example : ∀ a b, nmEx.fieldShort queryEx.ent a = nmEx.fieldShort queryEx.ent b → a = b := fun a b h => by
  have := xs_inj _ _ h; omega

/-- rows 2 and 5 are selected, in that order (the default "ab" of row 2 sorts after the cursor "b" descending; row 3
    is filtered out, row 4 stores f2, row 1 comes third and is cut by `first 2`) -/
example :
    (SqlSem.run (encode nmEx dataEx) (compile nmEx schemaEx (fun _ => "p0") queryEx) (fun _ => .str ['z'])).map
      (fun j => String.ofList (jsonChars 8 j)) =
      ["{\"f0\":2,\"a\":\"ab\",\"id\":2}", "{\"f0\":5,\"a\":\"ab\",\"id\":5}"] := by
  decide +kernel

example : (compile nmEx schemaEx (fun _ => "p0") queryEx).binds =
    [.text ['a', 'b'], .var "p0", .text ['a', 'b'], .text ['b']] := by decide

set_option maxRecDepth 4000 in
/-- the clauses of that statement as `query.rs` writes them (the whole text is compared byte for byte with
    `SingleQuery.sql_query` on every run of the check) -/
example :
    renderEnd 1 (compile nmEx schemaEx (fun _ => "p0") queryEx) =
      "AND \n    CASE\n        WHEN ?3 != ?2 THEN value->>'$.a' != ?2 OR value->>'$.a' is null \n        ELSE value->>'$.a' != ?2 \n    END AND\n    _json->>'$.xxx' is null AND \n    (value->>'$.a' < ?4) \n    ORDER BY value->>'$.a' desc , _json->>'$.x' asc " ∧
    renderFields "P" 1 (compile nmEx schemaEx (fun _ => "p0") queryEx).proj =
      "json_object(\n    'f0',_json->'$.x',\n    'a',Ifnull(_json->'$.xx',?1),\n    'id', base64_encode(P.id))" ∧
    renderLimit (compile nmEx schemaEx (fun _ => "p0") queryEx).limit (compile nmEx schemaEx (fun _ => "p0") queryEx).offset =
      "LIMIT 2" := by
  decide +kernel

/-- **C05 (compiler, one level of sub-selections).** `Model/SqlGenSub.lean` extends the model of the SQL generator to
    selections whose fields include sub-selections through entity and array reference fields
    (`get_sub_entity_query`, `get_sub_group_array`, `get_exists_query`), each sub-selection being a query of the
    single-entity fragment with its own filters, `order_by`, `first` / `skip`, cursors; `nullable(key)` and nullable
    reference fields make a sub-selection optional. `Model/SqlSemSub.lean` adds the `_edge` join, scalar
    sub-queries, `json_group_array` and `EXISTS` to the trusted SQL semantics.

    For every data model, every data set whose ids are keys (`dataOk`), every such query (`inFragment1`; the keys of
    the sub-selections differ from the alias of the root selection, which excludes the known shadowing defect),
    injective short names and parameters as the query was evaluated with: running the generated statement on the
    `_node` and `_edge` tables that store the data set returns exactly the list of JSON objects the reference
    evaluator computes for the code as it is, nested arrays and objects included, in the same order. -/
theorem C05_compile_correct_sub (nm : Names) (s : Schema) (data : Data) (q : Query) (vn0 : Nat → String)
    (vn : Nat → Nat → String) (env : String → Val) (fuel : Nat)
    (hfrag : inFragment1 s nm.table q = true)
    (hdata : dataOk data = true)
    (hent : ∀ a b, nm.entShort a = nm.entShort b → a = b)
    (hfld : ∀ e a b, nm.fieldShort e a = nm.fieldShort e b → a = b)
    (henv0 : ∀ i f, q.filters[i]? = some f → f.isParam = true → env (vn0 i) = f.value)
    (henvS : ∀ k key fld opt sq, q.sels[k]? = some (.sub key fld opt sq) →
      ∀ i f, sq.filters[i]? = some f → f.isParam = true → env (vn k i) = f.value) :
    SqlSem.run1 (encodeDb nm data) (compile1 nm s vn0 vn q) env =
      Query.eval Defects.asImplemented s data (fuel + 4) nm.table q := by
  obtain ⟨hsels, _, hfil, _⟩ := inFragment1_parts hfrag
  have hrows := compile1_rows env nm s vn0 vn q hfrag henv0 henvS data ⟨hent, hfld, hdata⟩ fuel
  rw [eval_rows fun sel hsel => isAgg_of_selOk1 (hsels sel hsel)]
  exact select_eval nm s data (fuel + 3) nm.table q data hfil _ _ _ (fun r hrd => (hrows r hrd).1)
    (fun r hrd hr => ((hrows r hrd).2 hr).1) (fun r hrd hr => ((hrows r hrd).2 hr).2)

/-- persons (entity 0: name, pets: [1], home: 2 nullable) and pets (entity 1: name, age default 1), houses (2) -/
def schemaSub : Schema :=
  [[{ kind := .str, nullable := false, dflt := none }, { kind := .arr 1, nullable := false, dflt := none },
    { kind := .ref 2, nullable := true, dflt := none }],
   [{ kind := .str, nullable := false, dflt := none }, { kind := .int, nullable := false, dflt := some (.int 1) }],
   [{ kind := .str, nullable := false, dflt := none }]]

/-- `P { name pets(age >= $p0, order_by(age desc), first 2) { name age } home { name } }` -/
def querySub : Query :=
  Query.mk 0 [.scalar "name" 0,
    .sub "pets" 1 false (Query.mk 1 [.scalar "name" 0, .scalar "age" 1]
      [{ onAlias := false, fld := 1, op := .ge, value := .int 1, isParam := true, name := "age" }]
      [{ name := "age", onAlias := false, fld := 1, desc := true }] 2 0 [] []),
    .sub "home" 2 false (Query.mk 2 [.scalar "name" 0] [] [] 0 0 [] [])]
    [] [] 0 0 [] []

def dataSub : Data :=
  [{ id := 1, ent := 1, vals := [(0, .str ['r', 'e', 'x']), (1, .int 7)], refs := [] },
   { id := 2, ent := 1, vals := [(0, .str ['t', 'o', 'm'])], refs := [] },
   { id := 3, ent := 1, vals := [(0, .str ['z', 'o', 'e']), (1, .int 3)], refs := [] },
   { id := 4, ent := 2, vals := [(0, .str ['h'])], refs := [] },
   { id := 5, ent := 0, vals := [(0, .str ['a', 'n', 'n'])], refs := [(1, [1, 2, 3]), (2, [4])] },
   { id := 6, ent := 0, vals := [(0, .str ['b', 'o', 'b'])], refs := [(1, [2])] },
   { id := 7, ent := 0, vals := [(0, .str ['c', 'y'])], refs := [] }]

example : inFragment1 schemaSub nmEx.table querySub = true := by decide
example : dataOk dataSub = true := by decide
example : ∀ e a b, nmEx.fieldShort e a = nmEx.fieldShort e b → a = b := fun _ a b h => by
  have := xs_inj _ _ h; omega

/-- ann has three pets of which the two oldest are returned (tom's age is unset: the stored row lacks it, so it sorts
    last and shows the default), bob's only pet lacks an age and the filter `age >= 1` uses the default; cy has no pet
    and is dropped by the mandatory sub-selection; bob has no home (nullable field): `null` -/
example :
    (SqlSem.run1 (encodeDb nmEx dataSub) (compile1 nmEx schemaSub (fun _ => "x") (fun _ _ => "p0") querySub)
        (fun _ => .int 1)).map (fun j => String.ofList (jsonChars 20 j)) =
      ["{\"name\":\"ann\",\"pets\":[{\"name\":\"rex\",\"age\":7},{\"name\":\"zoe\",\"age\":3}],\"home\":{\"name\":\"h\"}}",
       "{\"name\":\"bob\",\"pets\":[{\"name\":\"tom\",\"age\":1}],\"home\":null}"] := by
  decide +kernel

/-- **C05 (compiler, aggregate queries).** `Model/SqlGenAgg.lean` models the SQL generated for a selection of
    group-by scalar fields next to `count()`, `min(f)`, `max(f)` (`get_fields` for aggregates, `get_group_by`,
    `get_having_filters`), `Model/SqlSemAgg.lean` adds GROUP BY, the aggregate functions, bare columns and HAVING to the
    trusted SQL semantics. For every data model, every query of the aggregate fragment (`inFragmentA`: group fields
    without default and aggregates under distinct keys, WHERE filters on fields with literal / `null` / variable
    values, HAVING filters on aggregate aliases with non-`null` values, `order_by` on selected group fields and on
    aliases, no `first` / `skip` / cursors — the evaluator has none for grouped queries) and every data set in which
    the fields under `min` / `max` store numbers or texts only (`aggDataOk`): the generated statement returns exactly
    the evaluator's list of group rows, in the same order (groups that no `order_by` separates keep the order of their
    first row in the data set on both sides). `avg` / `sum` (floats) are outside the evaluator and the theorem. -/
theorem C05_compile_correct_agg (nm : Names) (s : Schema) (data : Data) (q : Query) (vn : Nat → String)
    (env : String → Val) (fuel : Nat) (rootKey : String)
    (hfrag : inFragmentA s q = true) (hdata : aggDataOk q data = true)
    (hent : ∀ a b, nm.entShort a = nm.entShort b → a = b)
    (hfld : ∀ a b, nm.fieldShort q.ent a = nm.fieldShort q.ent b → a = b)
    (henv : ∀ i f, q.filters[i]? = some f → f.isParam = true → env (vn i) = f.value) :
    SqlSem.runA (encode nm data) (compileA nm s vn q) env = Query.eval Defects.asImplemented s data fuel rootKey q :=
  compileA_correct nm s data q vn env fuel rootKey hfrag hdata hent hfld henv

/-- `P(f0 > 0, cnt >= $p0, order_by(f2 asc)) { f2 cnt: count() top: max(f0) }` over `schemaEx` / `dataEx` -/
def queryAgg : Query :=
  Query.mk 0 [.scalar "f2" 2, .agg "cnt" .count 0, .agg "top" .max 0]
    [{ onAlias := false, fld := 0, op := .gt, value := .int 0, isParam := false, name := "f0" },
     { onAlias := true, fld := 0, op := .ge, value := .int 1, isParam := true, name := "cnt" }]
    [{ name := "f2", onAlias := false, fld := 2, desc := false }] 0 0 [] []

example : inFragmentA schemaEx queryAgg = true ∧ aggDataOk queryAgg dataEx = true := by decide

/-- rows 1-3 store no `f2`, row 5 an explicit `null`: one group of four (NULL key, first), row 4 a group of its own -/
example :
    (SqlSem.runA (encode nmEx dataEx) (compileA nmEx schemaEx (fun _ => "p0") queryAgg) (fun _ => .int 1)).map
      (fun j => String.ofList (jsonChars 8 j)) =
      ["{\"f2\":null,\"cnt\":4,\"top\":5}", "{\"f2\":true,\"cnt\":1,\"top\":4}"] := by
  decide +kernel

end Discret.SqlCompile
