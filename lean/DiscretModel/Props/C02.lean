import DiscretModel.Lemmas.IngestDay
/-
C02 — rows received from peers are stored only if their author had the right.

Model: `Model/Ingest.lean` (one call of `synchronise_day`: reference deletion records, node deletion
records, announced ids → `filter_existing` → bodies → `add_nodes`/`validate_node`, references →
`add_edges`), over the shared room model. The statement predicates (`NodeOk`, `EdgeOk`, `NodeDelOk`,
`EdgeDelOk`) are in `Lemmas/IngestSpec.lean`. `st1`/`st2`/`st3` are the tables after the reference
deletions / node deletions / rows of the same day: a record is judged against the tables its stage sees.
All statements hold for every instance state, every set of room definitions and every batch — no bound.
-/
namespace Discret.Ingest
open Discret.Room (Key Ent RightType)

/-- **C02 (rows).** After a synchronised day, every row that is in `_node` and was not before is a
    received row with a valid signature, naming the synchronised room, of a known entity, conforming,
    within the size limit, whose author holds the needed right in that room at the row's own date
    (`MutateAll` when it overwrites another author's row), and — when it overwrites a row of
    another room — the same right in that room as well. Every row that disappeared was deleted by
    an entitled deletion record naming its room and id, or overwritten by such a row. -/
theorem C02_rows (s : Inst) (room : Nat) (b : Batch) (hn : NodupIds s.nodes) :
    (∀ x ∈ (syncDay Defects.none s room b).1.nodes, x ∉ s.nodes →
      ∃ n ∈ b.nodes, n.row = x ∧ NodeOk (st2 Defects.none s room b) room n) ∧
    (∀ x ∈ s.nodes, x ∉ (syncDay Defects.none s room b).1.nodes →
      (∃ r ∈ b.nodeDels, x.room = some r.entry.room ∧ x.id = r.entry.id ∧
        NodeDelOk (st1 Defects.none s room b) room r) ∨
      (∃ n ∈ b.nodes, n.row.id = x.id ∧ localRow (st2 Defects.none s room b).nodes n.row.id = some x ∧
        NodeOk (st2 Defects.none s room b) room n)) := by
  obtain ⟨h1, h2, _⟩ := rows_guarded Defects.none s room b hn (fun n _ => nodeGuardD_none _ n)
    fun r _ si _ => nodeDelGuardD_none si room r
  exact ⟨h1, h2⟩

/-- **C02 (references).** Every reference that appeared is a received reference with a valid
    signature whose source row is a local row of the synchronised room and of the entity it names,
    and whose author holds the right on that entity at the reference's date — the right `needOn` asks for
    against some `prev` (none, or a reference with the same source, label and target): the statement does not
    say which stored reference `prev` is (`day_new_refs` has it among the stored and received ones). Every
    reference that disappeared was deleted by an entitled record of the synchronised room matching it, or
    replaced by a received reference of the same source, label and target entitled against some reference `p`
    of that triple (the statement does not say that `p` is the reference that disappeared). -/
theorem C02_references (s : Inst) (room : Nat) (b : Batch) :
    (∀ x ∈ (syncDay Defects.none s room b).1.edges, x ∉ s.edges →
      ∃ e ∈ b.edges, e.row = x ∧ ∃ prev, EdgeOk (st3 Defects.none s room b) room prev e ∧
        ∀ p, prev = some p → edgeKeyEq e.row p = true) ∧
    (∀ x ∈ s.edges, x ∉ (syncDay Defects.none s room b).1.edges →
      (∃ r ∈ b.edgeDels, edgeMatches r.entry x = true ∧ EdgeDelOk s room r) ∨
      (∃ e ∈ b.edges, edgeKeyEq e.row x = true ∧ ∃ p, edgeKeyEq e.row p = true ∧
        EdgeOk (st3 Defects.none s room b) room (some p) e)) := by
  obtain ⟨h1, h2, _⟩ := refs_guarded Defects.none s room b (fun r _ => edgeDelGuardD_none s room r)
    fun e _ => edgeGuardD_none _ room _ e
  exact ⟨h1, h2⟩

/-- **C02 (deletion logs).** The deletion logs only gain validly signed records of the synchronised
    room whose author held the needed right at the deletion date. A node deletion record is judged against the tables
    at its turn (`Turn`: the room definitions of the stage; of its rows, those that earlier records of the same answer
    have not deleted — since /repo a395f05 every record of an answer is applied, a second record for a row that the
    first one deleted needs the own-rows right only: it deletes nobody's row). -/
theorem C02_deletion_logs (s : Inst) (room : Nat) (b : Batch) :
    (∀ t ∈ (syncDay Defects.none s room b).1.nodeLog, t ∉ s.nodeLog →
      ∃ r ∈ b.nodeDels, r.entry = t ∧ ∃ si, Turn (st1 Defects.none s room b) si ∧ NodeDelOk si room r) ∧
    (∀ t ∈ (syncDay Defects.none s room b).1.edgeLog, t ∉ s.edgeLog →
      ∃ r ∈ b.edgeDels, r.entry = t ∧ EdgeDelOk s room r) :=
  ⟨node_log_guarded Defects.none s room b fun r _ si _ => nodeDelGuardD_none si room r,
   (refs_guarded Defects.none s room b (fun r _ => edgeDelGuardD_none s room r)
     fun e _ => edgeGuardD_none _ room _ e).2.2⟩

/-! `Defects.rowsChecked d` / `Defects.refsChecked d`: the checks that bear on rows and node deletion records /
on references and reference deletion records are all in place. The statements are those of `C02_rows`, `C02_references`
and `C02_deletion_logs`, word for word. They apply to `Defects.asImplemented` without any guard when its switches of that
kind are off (`by decide`): the case for rows (`C02_rows_asImplemented`), not for references (`edgeSourceUnchecked`,
`edgeReplaceUnchecked`, `edgeDelSourceUnchecked`). -/

/-- **C02 (rows), for every setting of the switches in which the row checks are in place.** -/
theorem C02_rows_when (d : Defects) (c : d.rowsChecked = true) (s : Inst) (room : Nat) (b : Batch) (hn : NodupIds s.nodes) :
    (∀ x ∈ (syncDay d s room b).1.nodes, x ∉ s.nodes →
      ∃ n ∈ b.nodes, n.row = x ∧ NodeOk (st2 d s room b) room n) ∧
    (∀ x ∈ s.nodes, x ∉ (syncDay d s room b).1.nodes →
      (∃ r ∈ b.nodeDels, x.room = some r.entry.room ∧ x.id = r.entry.id ∧
        NodeDelOk (st1 d s room b) room r) ∨
      (∃ n ∈ b.nodes, n.row.id = x.id ∧ localRow (st2 d s room b).nodes n.row.id = some x ∧
        NodeOk (st2 d s room b) room n)) ∧
    (∀ t ∈ (syncDay d s room b).1.nodeLog, t ∉ s.nodeLog →
      ∃ r ∈ b.nodeDels, r.entry = t ∧ ∃ si, Turn (st1 d s room b) si ∧ NodeDelOk si room r) :=
  rows_guarded d s room b hn (fun n _ => nodeGuardD_of_checked c _ n)
    fun r _ si _ => nodeDelGuardD_of_checked c si room r

/-- **C02 (references), for every setting of the switches in which the reference checks are in place.** -/
theorem C02_references_when (d : Defects) (c : d.refsChecked = true) (s : Inst) (room : Nat) (b : Batch) :
    (∀ x ∈ (syncDay d s room b).1.edges, x ∉ s.edges →
      ∃ e ∈ b.edges, e.row = x ∧ ∃ prev, EdgeOk (st3 d s room b) room prev e ∧
        ∀ p, prev = some p → edgeKeyEq e.row p = true) ∧
    (∀ x ∈ s.edges, x ∉ (syncDay d s room b).1.edges →
      (∃ r ∈ b.edgeDels, edgeMatches r.entry x = true ∧ EdgeDelOk s room r) ∨
      (∃ e ∈ b.edges, edgeKeyEq e.row x = true ∧ ∃ p, edgeKeyEq e.row p = true ∧
        EdgeOk (st3 d s room b) room (some p) e)) ∧
    (∀ t ∈ (syncDay d s room b).1.edgeLog, t ∉ s.edgeLog →
      ∃ r ∈ b.edgeDels, r.entry = t ∧ EdgeDelOk s room r) :=
  refs_guarded d s room b (fun r _ => edgeDelGuardD_of_checked c s room r)
    fun e _ => edgeGuardD_of_checked c _ room _ e

/-- **C02, the full statement for every setting `d` of the switches, on the batches that pass the guard of `d`.**
    `dayGuardD d` excludes, record by record, exactly the shapes that `d` leaves unchecked (a switch that is
    off contributes nothing: `dayGuardD_none`). The six conclusions are those of `C02_rows`,
    `C02_references` and `C02_deletion_logs`, at full strength. -/
theorem C02_full_of (d : Defects) (s : Inst) (room : Nat) (b : Batch) (hn : NodupIds s.nodes)
    (g : dayGuardD d s room b = true) :
    (∀ x ∈ (syncDay d s room b).1.nodes, x ∉ s.nodes →
      ∃ n ∈ b.nodes, n.row = x ∧ NodeOk (st2 d s room b) room n) ∧
    (∀ x ∈ s.nodes, x ∉ (syncDay d s room b).1.nodes →
      (∃ r ∈ b.nodeDels, x.room = some r.entry.room ∧ x.id = r.entry.id ∧
        NodeDelOk (st1 d s room b) room r) ∨
      (∃ n ∈ b.nodes, n.row.id = x.id ∧ localRow (st2 d s room b).nodes n.row.id = some x ∧
        NodeOk (st2 d s room b) room n)) ∧
    (∀ x ∈ (syncDay d s room b).1.edges, x ∉ s.edges →
      ∃ e ∈ b.edges, e.row = x ∧ ∃ prev, EdgeOk (st3 d s room b) room prev e ∧
        ∀ p, prev = some p → edgeKeyEq e.row p = true) ∧
    (∀ x ∈ s.edges, x ∉ (syncDay d s room b).1.edges →
      (∃ r ∈ b.edgeDels, edgeMatches r.entry x = true ∧ EdgeDelOk s room r) ∨
      (∃ e ∈ b.edges, edgeKeyEq e.row x = true ∧ ∃ p, edgeKeyEq e.row p = true ∧
        EdgeOk (st3 d s room b) room (some p) e)) ∧
    (∀ t ∈ (syncDay d s room b).1.nodeLog, t ∉ s.nodeLog →
      ∃ r ∈ b.nodeDels, r.entry = t ∧ ∃ si, Turn (st1 d s room b) si ∧ NodeDelOk si room r) ∧
    (∀ t ∈ (syncDay d s room b).1.edgeLog, t ∉ s.edgeLog →
      ∃ r ∈ b.edgeDels, r.entry = t ∧ EdgeDelOk s room r) := by
  unfold dayGuardD at g
  simp only [Bool.and_eq_true, List.all_eq_true] at g
  obtain ⟨⟨⟨g1, g2⟩, g3⟩, g4⟩ := g
  obtain ⟨r1, r2, r5⟩ := rows_guarded d s room b hn g3 fun r hr si hti => nodeDelGuardD_turn (st1_nodup hn) hti (g2 r hr)
  obtain ⟨f3, f4, f6⟩ := refs_guarded d s room b g1 g4
  exact ⟨r1, r2, f3, f4, r5, f6⟩

/-- **a row deleted in the room is not stored again (#18, the ingestion half of C11).** For every setting of the
    switches in which the announced ids are gated by the deletion log (`announcedDeletedRequested = false`:
    `Defects.none`, and the code since findings/C11-ingest-consults-deletion-log-v2.patch): a row that appears during a
    synchronised day carries no node deletion record of the synchronised room — in the tables as they are after the
    deletion records of that same day were applied, so a record and its row arriving together leave the row out. -/
theorem C02_deleted_not_stored (d : Defects) (hd : d.announcedDeletedRequested = false) (s : Inst) (room : Nat) (b : Batch) :
    ∀ x ∈ (syncDay d s room b).1.nodes, x ∉ s.nodes → deletedIn (st2 d s room b) room x.id = false :=
  fun _ hx hnew =>
    have ⟨_, hx3, hn2⟩ := day_new_in_rowStage hx hnew
    nodeStage_new_gate hd hx3 hn2

/-- **relay independence.** The peer that relays the records is not an input of the ingestion path. -/
theorem C02_relay_independent (d : Defects) (p q : Key) (s : Inst) (room : Nat) (b : Batch) :
    syncDayFrom d p s room b = syncDayFrom d q s room b := rfl

/-- **batch independence (rows).** With pairwise distinct ids in the batch, the rows written are
    exactly those whose verdict `nodeVerdict` — a function of the row and of the tables before the
    stage — is positive; in particular a row is written in a batch iff it is written when sent alone
    (`C02_alone_rows`). -/
theorem C02_batch_independent_rows (d : Defects) (s : Inst) (room : Nat) (ns : List InNode)
    (hd : (ns.map (·.row.id)).Nodup) :
    (nodeStage d s room ns).1.nodes =
      writeNodes s.nodes ((ns.filter (nodeVerdict d s room)).map fun n => (n, localRow s.nodes n.row.id)) :=
  nodeStage_eq_verdicts hd

theorem C02_alone_rows (d : Defects) (s : Inst) (room : Nat) (x : InNode) :
    (nodeStage d s room [x]).1 =
      if nodeVerdict d s room x then { s with nodes := writeNode s.nodes x.row (localRow s.nodes x.row.id) }
      else s := by
  rw [nodeStage_eta, nodeStage_eq_verdicts (by simp)]
  cases h : nodeVerdict d s room x <;> simp [h, writeNodes]

/-- **batch independence (references).** Same for references with pairwise distinct
    (source, label, target). -/
theorem C02_batch_independent_references (d : Defects) (s : Inst) (room : Nat) (es : List InEdge)
    (hd : es.Pairwise fun a b => edgeKeyEq a.row b.row = false) :
    (edgeStage d s room es).1.edges =
      (es.filter (edgeAccepted d s room s.edges)).foldl (fun t e => writeEdge t e.row) s.edges :=
  addEdgesLoop_eq_verdicts hd

/-- **batch independence (deletion records).** The verdict on a deletion record is taken on the
    tables before the stage; with distinct ids no record hides another. -/
theorem C02_batch_independent_deletions (d : Defects) (s : Inst) (recs : List InNodeDel)
    (hd : (recs.map (·.entry.id)).Nodup) :
    deleteNodes d s recs =
      (recs.filter fun r => nodeDelAccepted d s r.entry).foldl (fun st r => applyNodeDel st r.entry) s := by
  unfold deleteNodes
  cases recs with
  | nil => rfl
  | cons x t =>
    -- the whole answer is the first message, and nothing is left for a second one
    simp only [List.length_cons, deleteNodesLoop]
    rw [splitFirst_nodup hd (by intro r _ h; cases h)]
    simp [deleteBatch]

/-- **a rejected row leaves no trace**: taking it out of the batch gives the same state. -/
theorem C02_rejected_row_no_trace (d : Defects) (s : Inst) (room : Nat) (b1 b2 : List InNode) (x : InNode)
    (hd : ((b1 ++ x :: b2).map (·.row.id)).Nodup) (hv : nodeVerdict d s room x = false) :
    (nodeStage d s room (b1 ++ x :: b2)).1 = (nodeStage d s room (b1 ++ b2)).1 := by
  have hd' : ((b1 ++ b2).map (·.row.id)).Nodup :=
    hd.sublist (((List.Sublist.refl b1).append (List.sublist_cons_self x b2)).map _)
  rw [nodeStage_eta, nodeStage_eq_verdicts hd, nodeStage_eta d s room (b1 ++ b2), nodeStage_eq_verdicts hd']
  simp [List.filter_append, hv]

theorem C02_rejected_reference_no_trace (d : Defects) (s : Inst) (room : Nat) (e : InEdge)
    (hv : edgeAccepted d s room s.edges e = false) : (edgeStage d s room [e]).1 = s := by
  rw [edgeStage_single, hv]; rfl

theorem C02_rejected_deletion_no_trace (d : Defects) (s : Inst) (r : InNodeDel) (r' : InEdgeDel)
    (hv : nodeDelAccepted d s r.entry = false) (hv' : edgeDelAccepted d s r'.entry = false) :
    deleteNodes d s [r] = s ∧ deleteEdges d s [r'] = s := by
  rw [deleteNodes_single, deleteEdges_single, hv, hv']; exact ⟨rfl, rfl⟩

/-- a reference deletion record with an invalid signature (among those kept of the answer) stops the day before
    anything is applied; the later stages stop in the same way (`syncDay_cases`). Once deletion records of other
    rooms are dropped from the answer — /repo after findings/C02-deletion-of-other-room.patch — their signatures
    are not looked at any more. -/
theorem C02_bad_signature_stops (d : Defects) (s : Inst) (room : Nat) (b : Batch)
    (h : (keepEdgeDels d room b.edgeDels).all (·.sigOk) = false) : syncDay d s room b = (s, .sigError .edgeDels) := by
  unfold syncDay; simp [h]

/-- ingestion never changes a room definition -/
theorem C02_rooms_unchanged (d : Defects) (s : Inst) (room : Nat) (b : Batch) :
    (syncDay d s room b).1.rooms = s.rooms := syncDay_rooms d s room b

/-- row ids stay unique (the invariant `NodupIds` that `C02_rows` assumes of the tables before the day) -/
theorem C02_ids_stay_unique (d : Defects) (s : Inst) (room : Nat) (b : Batch) (hn : NodupIds s.nodes) :
    NodupIds (syncDay d s room b).1.nodes := syncDay_nodup hn

/-! Witnesses of the deviations. Every witness is stated about an explicit value of the switches — `Defects.beforeFix` (/repo at 846341e: the seven
shapes of the second series) or `Defects.beforeFixes` (/repo before the first fix) — so that it stays a theorem
whatever `Defects.asImplemented` becomes; its last clause shows that turning the one switch off refuses the record (the witness of the room-less row
also turns the entity comparison on: row 11 is of another entity than the row that overwrites it).

One world for all witnesses. Room 10: key 0 admin; one group with users 1 and 2 (from date 100),
`A` (1): own rows only, `B` (2): own and all rows. Room 40: key 3 may write `A`. -/

def grp10 : Discret.Room.Auth :=
  { id := 12, mdate := 100,
    users := [{ key := 1, date := 100, enabled := true }, { key := 2, date := 100, enabled := true }],
    rights := [{ validFrom := 100, entity := 1, mutSelf := true, mutAll := false },
               { validFrom := 100, entity := 2, mutSelf := true, mutAll := true }],
    userAdmins := [] }

def room10 : RoomT :=
  { id := 10, mdate := 100, admins := [{ key := 0, date := 100, enabled := true }], auths := [grp10] }

def room40 : RoomT :=
  { id := 40, mdate := 100, admins := [{ key := 0, date := 100, enabled := true }],
    auths := [{ id := 42, mdate := 100, users := [{ key := 3, date := 100, enabled := true }],
                rights := [{ validFrom := 100, entity := 1, mutSelf := true, mutAll := false }], userAdmins := [] }] }

/-- row 50: `A` in room 10 by key 1; row 60: `A` in room 40 by key 3; row 11: the admin entry of room 10
    (a system row: no room); a reference 50 -[34]-> 60 by key 1 -/
def world : Inst :=
  { rooms := [room10, room40],
    nodes := [{ id := 11, room := none, ent := 102, cdate := 100, mdate := 100, key := 0, sg := 0, val := 0 },
              { id := 50, room := some 10, ent := 1, cdate := 200, mdate := 200, key := 1, sg := 5, val := 1 },
              { id := 60, room := some 40, ent := 1, cdate := 200, mdate := 200, key := 3, sg := 6, val := 2 }],
    edges := [{ src := 50, srcEnt := 1, label := 34, dst := 60, cdate := 200, key := 1 }],
    nodeLog := [], edgeLog := [] }

def mkNode (id room ent : Nat) (date : Int) (key : Key) : InNode :=
  { row := { id, room := some room, ent, cdate := date, mdate := date, key, sg := 9, val := 7 },
    annDate := date, annSg := 9, sigOk := true, conforms := true, jsonAbsent := false, big := false }

def noBatch : Batch := { edgeDels := [], nodeDels := [], nodes := [], edges := [] }

/-- an honest new row by key 2, so that the day reaches the reference stage -/
def fresh : InNode := mkNode 70 10 1 300 2

/-- **#21** key 2 (own-rows right on `A` in room 10) attaches a reference to row 60, which is in
    room 40 where key 2 has no right at all; with the source check the reference is refused. -/
theorem C02_breaks_edgeSourceUnchecked :
    let e : EdgeRow := { src := 60, srcEnt := 1, label := 34, dst := 50, cdate := 300, key := 2 }
    let b := { noBatch with nodes := [fresh], edges := [{ row := e, sigOk := true }] }
    e ∈ (syncDay Defects.beforeFix world 10 b).1.edges ∧
    edgeSourceOk (st3 Defects.beforeFix world 10 b) 10 e = false ∧
    e ∉ (syncDay { Defects.beforeFix with edgeSourceUnchecked := false } world 10 b).1.edges := by
  decide +kernel

/-- key 2 replaces key 1's reference 50 -[34]-> 60 (same source, label, target) holding the
    own-rows right only: the stored reference now carries key 2 as author. -/
theorem C02_breaks_edgeReplaceUnchecked :
    let e : EdgeRow := { src := 50, srcEnt := 1, label := 34, dst := 60, cdate := 300, key := 2 }
    let b := { noBatch with nodes := [fresh], edges := [{ row := e, sigOk := true }] }
    (syncDay Defects.beforeFix world 10 b).1.edges = [e] ∧
    canIn world 10 2 1 300 .mutateAll = false ∧
    (syncDay { Defects.beforeFix with edgeReplaceUnchecked := false } world 10 b).1.edges = world.edges := by
  decide +kernel

/-- key 2 holds the all-rows right on `B` only; it overwrites key 1's `A` row 50 with a `B` row. -/
theorem C02_breaks_entityChangeUnchecked :
    let n := mkNode 50 10 2 300 2
    let b := { noBatch with nodes := [n] }
    n.row ∈ (syncDay Defects.beforeFix world 10 b).1.nodes ∧
    canIn world 10 2 1 300 .mutateAll = false ∧
    (syncDay { Defects.beforeFix with entityChangeUnchecked := false } world 10 b).1.nodes = world.nodes := by
  decide +kernel

/-- **fixed in /repo 37a7f03, kept as a regression witness about `Defects.beforeFixes`.** The admin
    entry of room 10 (row 11, no room, signed by key 0) was overwritten by a `B` row of key 2: no
    right on a room-less row was ever checked. The code as it is now refuses the row. -/
theorem C02_breaks_roomlessReplaceUnchecked :
    let n := mkNode 11 10 2 300 2
    let b := { noBatch with nodes := [n] }
    (syncDay Defects.beforeFixes world 10 b).1.nodes.find? (·.id = 11) = some n.row ∧
    (syncDay Defects.asImplemented world 10 b).1.nodes = world.nodes ∧
    (syncDay { Defects.beforeFixes with roomlessReplaceUnchecked := false,
                                        entityChangeUnchecked := false } world 10 b).1.nodes = world.nodes := by
  decide +kernel

/-- while room 10 is synchronised, a deletion record of room 40 (signed by key 3, entitled there)
    is accepted and applied. -/
theorem C02_breaks_delRoomUnchecked :
    let r : NodeDel := { room := 40, id := 60, ent := 1, mdate := 200, ddate := 300, key := 3 }
    let b := { noBatch with nodeDels := [{ entry := r, sigOk := true }] }
    (syncDay Defects.beforeFix world 10 b).1.nodes.all (·.id ≠ 60) = true ∧
    (syncDay { Defects.beforeFix with delRoomUnchecked := false } world 10 b).1 = world := by
  decide +kernel

/-- key 2 (all-rows right on `B` only) deletes key 1's `A` row 50 with a record that names entity `B`. -/
theorem C02_breaks_delEntityUnchecked :
    let r : NodeDel := { room := 10, id := 50, ent := 2, mdate := 200, ddate := 300, key := 2 }
    let b := { noBatch with nodeDels := [{ entry := r, sigOk := true }] }
    (syncDay Defects.beforeFix world 10 b).1.nodes.all (·.id ≠ 50) = true ∧
    canIn world 10 2 1 300 .mutateAll = false ∧
    (syncDay { Defects.beforeFix with delEntityUnchecked := false } world 10 b).1 = world := by
  decide +kernel

/-- `world` plus a reference 50 -[35]-> 60 authored by key 3 (itself a foreign-source reference) -/
def world2 : Inst :=
  { world with edges := world.edges ++ [{ src := 50, srcEnt := 1, label := 35, dst := 60, cdate := 200, key := 3 }] }

/-- a record that names room 40, signed by key 3 (entitled in room 40), deletes a reference whose
    source row 50 is in room 10, where key 3 has no right. -/
theorem C02_breaks_edgeDelSourceUnchecked :
    let r : EdgeDel := { room := 40, src := 50, srcEnt := 1, dst := 60, label := 35, cdate := 200, ddate := 300, key := 3 }
    let b := { noBatch with edgeDels := [{ entry := r, sigOk := true }] }
    (syncDay Defects.beforeFix world2 40 b).1.edges = world.edges ∧
    canIn world2 10 3 1 300 .mutateSelf = false ∧
    (syncDay { Defects.beforeFix with edgeDelSourceUnchecked := false } world2 40 b).1 = world2 := by
  decide +kernel

/-- **fixed in /repo e73c9e7, kept as a regression witness about `Defects.beforeFixes`.** A row without
    JSON was stored although its entity has a mandatory field. The code as it is now refuses it. -/
theorem C02_breaks_jsonAbsentUnchecked :
    let n := { mkNode 71 10 1 300 2 with conforms := false, jsonAbsent := true }
    let b := { noBatch with nodes := [n] }
    n.row ∈ (syncDay Defects.beforeFixes world 10 b).1.nodes ∧
    (syncDay Defects.asImplemented world 10 b).1 = world ∧
    (syncDay { Defects.beforeFixes with jsonAbsentUnchecked := false } world 10 b).1 = world := by
  decide +kernel

/-- a room whose only group gives its users the wildcard own-rows right `*`; key 2 is a plain user -/
def wildRoom : RoomT :=
  { id := 10, mdate := 100, admins := [{ key := 0, date := 100, enabled := true }],
    auths := [{ id := 12, mdate := 100, users := [{ key := 2, date := 100, enabled := true }],
                rights := [{ validFrom := 100, entity := 0, mutSelf := true, mutAll := false }], userAdmins := [] }] }

/-- its definition rows: the room row 10 and the admin entry 11 (system rows, no room) -/
def wildWorld : Inst :=
  { rooms := [wildRoom],
    nodes := [{ id := 10, room := none, ent := 100, cdate := 100, mdate := 100, key := 0, sg := 0, val := 0 },
              { id := 11, room := none, ent := 102, cdate := 100, mdate := 100, key := 0, sg := 0, val := 0 }],
    edges := [{ src := 10, srcEnt := 100, label := 32, dst := 11, cdate := 100, key := 0 }],
    nodeLog := [], edgeLog := [] }

/-- **rows of a room definition accepted as data.** The wildcard right covers the system entities:
    key 2 gets a `sys.UserAuth` row of its own making (row 300, entity 102) and a reference
    room-row -[32 = admin]-> 300 into the tables. The acceptance of the next room definition reads
    them back as a stored admin entry (`C07_breaks_storedDefinitionTrusted`). Refusing rows,
    references and deletion records of the four definition entities closes it (/repo 4dd7eb7). -/
theorem C02_breaks_authEntityUnchecked :
    let n := mkNode 300 10 102 300 2
    let e : EdgeRow := { src := 10, srcEnt := 100, label := 32, dst := 300, cdate := 300, key := 2 }
    let b := { noBatch with nodes := [n], edges := [{ row := e, sigOk := true }] }
    n.row ∈ (syncDay Defects.beforeFixes wildWorld 10 b).1.nodes ∧
    e ∈ (syncDay Defects.beforeFixes wildWorld 10 b).1.edges ∧
    (syncDay { Defects.beforeFixes with authEntityUnchecked := false } wildWorld 10 b).1 = wildWorld := by
  decide +kernel

/-- **C02_partial.** For the code as written (`Defects.asImplemented`), the full conclusions of
    `C02_rows`, `C02_references`, `C02_deletion_logs` hold for every batch that passes `dayGuard` =
    `dayGuardD Defects.asImplemented`: each record is excluded only for a shape whose switch is still on in
    `Defects.asImplemented` (Model/Ingest.lean lists them one per line with the repair that closes each). What is
    missing relative to the full statement is exactly the witnesses `C02_breaks_*` whose switch is still on. -/
theorem C02_partial (s : Inst) (room : Nat) (b : Batch) (hn : NodupIds s.nodes) (g : dayGuard s room b = true) :
    (∀ x ∈ (syncDay Defects.asImplemented s room b).1.nodes, x ∉ s.nodes →
      ∃ n ∈ b.nodes, n.row = x ∧ NodeOk (st2 Defects.asImplemented s room b) room n) ∧
    (∀ x ∈ s.nodes, x ∉ (syncDay Defects.asImplemented s room b).1.nodes →
      (∃ r ∈ b.nodeDels, x.room = some r.entry.room ∧ x.id = r.entry.id ∧
        NodeDelOk (st1 Defects.asImplemented s room b) room r) ∨
      (∃ n ∈ b.nodes, n.row.id = x.id ∧ localRow (st2 Defects.asImplemented s room b).nodes n.row.id = some x ∧
        NodeOk (st2 Defects.asImplemented s room b) room n)) ∧
    (∀ x ∈ (syncDay Defects.asImplemented s room b).1.edges, x ∉ s.edges →
      ∃ e ∈ b.edges, e.row = x ∧ ∃ prev, EdgeOk (st3 Defects.asImplemented s room b) room prev e ∧
        ∀ p, prev = some p → edgeKeyEq e.row p = true) ∧
    (∀ x ∈ s.edges, x ∉ (syncDay Defects.asImplemented s room b).1.edges →
      (∃ r ∈ b.edgeDels, edgeMatches r.entry x = true ∧ EdgeDelOk s room r) ∨
      (∃ e ∈ b.edges, edgeKeyEq e.row x = true ∧ ∃ p, edgeKeyEq e.row p = true ∧
        EdgeOk (st3 Defects.asImplemented s room b) room (some p) e)) ∧
    (∀ t ∈ (syncDay Defects.asImplemented s room b).1.nodeLog, t ∉ s.nodeLog →
      ∃ r ∈ b.nodeDels, r.entry = t ∧ ∃ si, Turn (st1 Defects.asImplemented s room b) si ∧ NodeDelOk si room r) ∧
    (∀ t ∈ (syncDay Defects.asImplemented s room b).1.edgeLog, t ∉ s.edgeLog →
      ∃ r ∈ b.edgeDels, r.entry = t ∧ EdgeDelOk s room r) :=
  C02_full_of Defects.asImplemented s room b hn g

/-- for /repo before the first fixes (37a7f03, e73c9e7, 4dd7eb7), under the guard that was needed then
    (moreover: no record of a room-definition entity, no row without JSON, no overwritten row without room):
    the conclusions of `C02_full_of Defects.beforeFixes` without the clauses that say which local row a received
    row overwrote and which reference a received reference was judged against -/
theorem C02_partial_beforeFixes (s : Inst) (room : Nat) (b : Batch) (hn : NodupIds s.nodes) (g : dayGuardBeforeFixes s room b = true) :
    (∀ x ∈ (syncDay Defects.beforeFixes s room b).1.nodes, x ∉ s.nodes →
      ∃ n ∈ b.nodes, n.row = x ∧ NodeOk (st2 Defects.beforeFixes s room b) room n) ∧
    (∀ x ∈ s.nodes, x ∉ (syncDay Defects.beforeFixes s room b).1.nodes →
      (∃ r ∈ b.nodeDels, x.room = some r.entry.room ∧ x.id = r.entry.id ∧
        NodeDelOk (st1 Defects.beforeFixes s room b) room r) ∨
      (∃ n ∈ b.nodes, n.row.id = x.id ∧ NodeOk (st2 Defects.beforeFixes s room b) room n)) ∧
    (∀ x ∈ (syncDay Defects.beforeFixes s room b).1.edges, x ∉ s.edges →
      ∃ e ∈ b.edges, e.row = x ∧ ∃ prev, EdgeOk (st3 Defects.beforeFixes s room b) room prev e) ∧
    (∀ x ∈ s.edges, x ∉ (syncDay Defects.beforeFixes s room b).1.edges →
      (∃ r ∈ b.edgeDels, edgeMatches r.entry x = true ∧ EdgeDelOk s room r) ∨
      (∃ e ∈ b.edges, edgeKeyEq e.row x = true)) ∧
    (∀ t ∈ (syncDay Defects.beforeFixes s room b).1.nodeLog, t ∉ s.nodeLog →
      ∃ r ∈ b.nodeDels, r.entry = t ∧ ∃ si, Turn (st1 Defects.beforeFixes s room b) si ∧ NodeDelOk si room r) ∧
    (∀ t ∈ (syncDay Defects.beforeFixes s room b).1.edgeLog, t ∉ s.edgeLog →
      ∃ r ∈ b.edgeDels, r.entry = t ∧ EdgeDelOk s room r) := by
  obtain ⟨h1, h2, h3, h4, h5, h6⟩ := C02_full_of Defects.beforeFixes s room b hn g
  refine ⟨h1, ?_, ?_, ?_, h5, h6⟩
  · intro x hx hgone
    rcases h2 x hx hgone with h | ⟨n, hn', e1, _, hok⟩
    · exact Or.inl h
    · exact Or.inr ⟨n, hn', e1, hok⟩
  · intro x hx hnew
    obtain ⟨e, he, hrow, prev, hok, _⟩ := h3 x hx hnew
    exact ⟨e, he, hrow, prev, hok⟩
  · intro x hx hgone
    rcases h4 x hx hgone with h | ⟨e, he, hk, _⟩
    · exact Or.inl h
    · exact Or.inr ⟨e, he, hk⟩

/-- **C02 (rows, node deletion records), for the code as it is, no guard.** With the three repairs
    replace-other-entity (/repo 31c5b93), deletion-of-other-room (e6a57ba), deletion-entity-mismatch (5d1e49f) every check
    that bears on a received row or node deletion record is in place in `Defects.asImplemented` (`by decide`), and the
    statement of `C02_rows` and of the node half of `C02_deletion_logs` holds for the code as it is, for every state, every
    set of room definitions, every batch. -/
theorem C02_rows_asImplemented (s : Inst) (room : Nat) (b : Batch) (hn : NodupIds s.nodes) :
    (∀ x ∈ (syncDay Defects.asImplemented s room b).1.nodes, x ∉ s.nodes →
      ∃ n ∈ b.nodes, n.row = x ∧ NodeOk (st2 Defects.asImplemented s room b) room n) ∧
    (∀ x ∈ s.nodes, x ∉ (syncDay Defects.asImplemented s room b).1.nodes →
      (∃ r ∈ b.nodeDels, x.room = some r.entry.room ∧ x.id = r.entry.id ∧
        NodeDelOk (st1 Defects.asImplemented s room b) room r) ∨
      (∃ n ∈ b.nodes, n.row.id = x.id ∧ localRow (st2 Defects.asImplemented s room b).nodes n.row.id = some x ∧
        NodeOk (st2 Defects.asImplemented s room b) room n)) ∧
    (∀ t ∈ (syncDay Defects.asImplemented s room b).1.nodeLog, t ∉ s.nodeLog →
      ∃ r ∈ b.nodeDels, r.entry = t ∧ ∃ si, Turn (st1 Defects.asImplemented s room b) si ∧ NodeDelOk si room r) :=
  C02_rows_when Defects.asImplemented (by decide) s room b hn

-- an honest day in `world`: key 2 adds an `A` row and a reference from it, key 1 deletes its own row 50 and its
-- reference 50 -[34]-> 60; everything is stored, the guard holds, ids are unique
def honestBatch : Batch :=
  { noBatch with nodes := [fresh],
                 edges := [{ row := { src := 70, srcEnt := 1, label := 34, dst := 50, cdate := 300, key := 2 }, sigOk := true }],
                 nodeDels := [{ entry := { room := 10, id := 50, ent := 1, mdate := 200, ddate := 300, key := 1 }, sigOk := true }],
                 edgeDels := [{ entry := { room := 10, src := 50, srcEnt := 1, dst := 60, label := 34, cdate := 200, ddate := 300, key := 1 }, sigOk := true }] }

example : NodupIds world.nodes := by unfold NodupIds; decide
example : dayGuard world 10 honestBatch = true := by decide +kernel
example : (syncDay Defects.asImplemented world 10 honestBatch).2 = .done [] [] := by decide +kernel
example : (syncDay Defects.asImplemented world 10 honestBatch).1.nodes.map (·.id) = [11, 60, 70] ∧
    (syncDay Defects.asImplemented world 10 honestBatch).1.edges.map (·.src) = [70] ∧
    (syncDay Defects.asImplemented world 10 honestBatch).1.nodeLog.length = 1 ∧
    (syncDay Defects.asImplemented world 10 honestBatch).1.edgeLog.length = 1 := by decide +kernel
-- the intended checks accept the same honest day
example : syncDay Defects.none world 10 honestBatch = syncDay Defects.asImplemented world 10 honestBatch := by decide +kernel
-- a rejected row (key 3 has no right in room 10) with a positive and a negative verdict side by side
example : nodeVerdict Defects.asImplemented world 10 fresh = true ∧
    nodeVerdict Defects.asImplemented world 10 (mkNode 72 10 1 300 3) = false := by decide +kernel
-- the last-writer-wins filter: an older version of row 50 is not even requested
example : nodeVerdict Defects.asImplemented world 10 (mkNode 50 10 1 150 1) = false := by decide +kernel


-- two deletion records of one answer for the same row (deleted by two members on the same day): both are applied,
-- in the order of the answer — key 1 deletes its own row 50, key 2's record then finds no local row and needs the
-- own-rows right only; on its own, key 2's record would be refused (no all-rows right on `A`)
example :
    let r1 : InNodeDel := { entry := { room := 10, id := 50, ent := 1, mdate := 200, ddate := 300, key := 1 }, sigOk := true }
    let r2 : InNodeDel := { entry := { room := 10, id := 50, ent := 1, mdate := 200, ddate := 310, key := 2 }, sigOk := true }
    (deleteNodes Defects.asImplemented world [r1, r2]).nodeLog = [r1.entry, r2.entry] ∧
    (deleteNodes Defects.asImplemented world [r1, r2]).nodes.all (·.id ≠ 50) = true ∧
    deleteNodes Defects.asImplemented world [r2] = world := by decide +kernel

end Discret.Ingest
