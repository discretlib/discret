import DiscretModel.Lemmas.SyncConverge
import DiscretModel.Lemmas.SyncRefineRoom
import DiscretModel.Model.Sync
/-
C03 — synchronisation converges: all members end with the same room content.
Replicas form a semilattice (greater `(mdate, signature)` wins, deletion records are united, a deletion record removes
every version of its row); any schedule of pulls that are joins converges to the join of all replicas; the pull of
`Model/Sync.lean` with four switches off and members holding every right IS that join (refinement); witnesses for three
of the switches the code (`Defects.asImplemented`) has on (`rightDependsOnLocalAuthor`, `edgesOnlyForFetchedRows`,
`summaryFirstEntityOnly`; `syncDeletionRoomScoped` has its witness in `Props/C11.lean`, `syncDeletionKeepsEdges` has none)
and for two it has off (`deletionBatchKeyedById`, `ingestIgnoresTombstones`).
-/
namespace Discret.SyncOrder

/-- **C03 (the order is total).** `(mdate, signature)` compared lexicographically is a total order on versions. -/
theorem C03_order_total (a b c : Ver) :
    vle a a ∧ (vle a b ∨ vle b a) ∧ (vle a b → vle b c → vle a c) ∧ (vle a b → vle b a → a = b) :=
  ⟨vle_refl a, vle_total a b, vle_trans, vle_antisymm⟩

/-- **C03 (merge of versions).** Keeping the greater version is idempotent, commutative and associative. -/
theorem C03_merge_semilattice (a b c : Option Ver) :
    merge a a = a ∧ merge a b = merge b a ∧ merge (merge a b) c = merge a (merge b c) :=
  ⟨merge_idem a, merge_comm a b, merge_assoc a b c⟩

/-- **C03 (join of replicas).** The join is an idempotent, commutative, associative operation on replicas. -/
theorem C03_join_semilattice (a b c : ARep) (ha : a.WF) :
    join a a = a ∧ join a b = join b a ∧ join (join a b) c = join a (join b c) ∧ (join a b).WF :=
  ⟨join_idem ha, join_comm a b, join_assoc a b c, join_wf a b⟩

/-- **C03 (quiescence ⇒ agreement).** For any finite set of replicas: if a full round of all ordered pairs
    changes nothing then all replicas are equal, and a further pull between two of them transfers nothing. -/
theorem C03_quiet_all_equal (s : Net) (h : s.Quiet) (i j : Nat) (hi : i < s.length) (hj : j < s.length) :
    s.at i = s.at j ∧ s.pull i j = s :=
  ⟨Net.quiet_all_equal h hi hj, Net.quiet_pull_noop h hi hj⟩

/-- **C03 (convergence, independent of the order).** Any number of replicas, any sequence of directed pulls of
    any length: once a full round changes nothing, every replica holds the join of ALL initial replicas —
    the same state whatever the schedule was and whatever order the replicas are listed in. -/
theorem C03_convergence (s0 : Net) (hw : ∀ x ∈ s0, x.WF) (sched : List (Nat × Nat))
    (hq : (s0.run sched).Quiet) (i : Nat) (hi : i < s0.length) :
    (s0.run sched).at i = joinAll s0 ∧ ∀ s0', s0.Perm s0' → joinAll s0' = joinAll s0 :=
  ⟨Net.quiet_is_joinAll hw sched hq hi, fun _ hp => (joinAll_perm hp).symm⟩

/-- **C03 (the same version wins everywhere).** In the converged state a row that carries a deletion record is
    shown nowhere; otherwise the version shown is one that some replica held and is the greatest, for
    `(mdate, signature)`, of all versions any replica held — independent of arrival order. -/
theorem C03_winner_is_max (s0 : Net) (hw : ∀ x ∈ s0, x.WF) (id : Nat) :
    ((joinAll s0).dead id = true → (joinAll s0).ver id = none) ∧
    ((joinAll s0).dead id = false →
      (∀ w, (joinAll s0).ver id = some w → ∃ x ∈ s0, x.ver id = some w) ∧
      (∀ x ∈ s0, ∀ v, x.ver id = some v → ∃ w, (joinAll s0).ver id = some w ∧ vle v w)) :=
  ⟨joinAll_wf s0 id, joinAll_ver s0 id⟩

/-- non-vacuity: three replicas holding three versions of row 7 (two of the same date), one schedule -/
example :
    let a : ARep := { ver := fun i => if i = 7 then some (5, 1) else none, dead := fun _ => false, recs := fun _ => false }
    let b : ARep := { ver := fun i => if i = 7 then some (9, 2) else none, dead := fun _ => false, recs := fun _ => false }
    let c : ARep := { ver := fun i => if i = 7 then some (9, 3) else none, dead := fun _ => false, recs := fun _ => false }
    ((Net.run [a, b, c] [(0, 1), (1, 2), (2, 0), (0, 2), (1, 0)]).at 0).ver 7 = some (9, 3) ∧
    (joinAll [a, b, c]).ver 7 = some (9, 3) := by
  decide

end Discret.SyncOrder

namespace Discret.Sync
open Discret.DailyLog

open Discret.SyncOrder in
/-- **C03 (refinement, one day).** For the model of `synchronise_day` with the switches #18 (ingestion ignores deletion
    records), room-scoped synchronised deletion and deletion records keyed by row id off — every other switch as in
    the code, #30 (references only for fetched rows) included —, members holding every right: the rows and node
    deletion records of the puller afterwards are the join of what it held with the source's rows and records of that
    `(room, entity, day)`. Any replicas in which no stored row carries a deletion record (`hzd`, `hzs`), the source
    stores one row per id (`hns`) and a primary key of the deletion log names one record across the two (`hpk`). -/
theorem C03_refines_day (d : Defects) (hI : d.ingestIgnoresTombstones = false) (hR : d.syncDeletionRoomScoped = false)
    (hK : d.deletionBatchKeyedById = false)
    (rights : Rights) (hA : AllRights rights) (dst src : Replica)
    (hzd : NoZombie dst) (hzs : NoZombie src) (hns : IdsNodup src)
    (hpk : PkFun (fun x => x ∈ dst.ntombs ∨ x ∈ src.ntombs)) (room ent day : Nat) :
    abs (syncDay d rights dst src room ent day).dst = join (abs dst) (abs (slice src room ent day)) :=
  (syncDay_refines (f := fun _ => 0) hI (hA.entitled src) ⟨Or.inl hR, Or.inl hK, hzd, hzs, hns, hpk⟩ room ent day).1

open Discret.SyncOrder in
/-- **C03 (refinement, one pull, any logs).** Same switches off and the whole history compared (room summary switch
    off): `synchronise_room` is the sequence of joins with the source's days whose daily hash the puller's log does
    not show — whatever the two logs hold. -/
theorem C03_refines_pull_days (d : Defects) (hI : d.ingestIgnoresTombstones = false)
    (hR : d.syncDeletionRoomScoped = false) (hK : d.deletionBatchKeyedById = false)
    (hS : d.summaryFirstEntityOnly = false)
    (rights : Rights) (hA : AllRights rights) (dst src : Replica)
    (hzd : NoZombie dst) (hzs : NoZombie src) (hns : IdsNodup src)
    (hpk : PkFun (fun x => x ∈ dst.ntombs ∨ x ∈ src.ntombs)) (room : Nat) :
    abs (pull d rights dst src room).dst = joinDays src room (diffDays dst src room) (abs dst) :=
  pull_refines_days (f := fun _ => 0) hI hS (hA.entitled src) ⟨Or.inl hR, Or.inl hK, hzd, hzs, hns, hpk⟩ room

open Discret.SyncOrder in
/-- **C03 (refinement, one pull).** `pull d dst src = join dst (src restricted to the room)` on rows and node deletion
    records, for any model `d` with four switches off (#18, room-scoped deletion, batches keyed by row id, room
    summary of one entity), when both logs are the logs of the stored content (C09: the state after a recomputation
    with nothing pending), row ids are unique per replica, no stored row carries a deletion record (C11's invariant),
    a signature stands for the record it signs, and every member holds every right. With `C03_convergence` (a pull
    being the join): any schedule converges to the join of all replicas. -/
theorem C03_refines_pull (d : Defects) (hI : d.ingestIgnoresTombstones = false)
    (hR : d.syncDeletionRoomScoped = false) (hK : d.deletionBatchKeyedById = false)
    (hS : d.summaryFirstEntityOnly = false)
    (rights : Rights) (hA : AllRights rights) (dst src : Replica)
    (hzd : NoZombie dst) (hzs : NoZombie src) (hnd : IdsNodup dst) (hns : IdsNodup src)
    (hpk : PkFun (fun x => x ∈ dst.ntombs ∨ x ∈ src.ntombs))
    (hld : IsLogOf dst.sigs dst.log) (hls : IsLogOf src.sigs src.log) (hsig : SigsDetermine dst src) (room : Nat) :
    abs (pull d rights dst src room).dst = join (abs dst) (abs (inRoom src room)) :=
  pull_refines_join (f := fun _ => 0) hI hS (hA.entitled src) ⟨Or.inl hR, Or.inl hK, hzd, hzs, hns, hpk⟩ hnd hld hls hsig room

open Discret.SyncOrder in
/-- **C03 (refinement, one pull, deviations of the code as conditions on the data).** The same equation for every
    model that consults the deletion log (#18 repaired) and compares the whole history, with the room-scoped
    synchronised deletion and the deletion batches keyed by row id LEFT FREE (on or off), for replicas in which rows
    keep their room (`RoomFn f`: every version and every deletion record of a row name the room `f` gives it) and a
    source that holds no two deletion records of one row on one day (`DayRecordsDistinct`). What separates the code
    from this theorem is then: the room summary of one entity (`hS`, finding
    `room-summary-compares-first-entity-only`), members without the all-rows right (`hA`, #19), and states whose logs
    are not those of the stored content (`hld`, `hls` hold after a recomputation with nothing pending: C09). -/
theorem C03_refines_pull_code (d : Defects) (hI : d.ingestIgnoresTombstones = false)
    (hS : d.summaryFirstEntityOnly = false) (rights : Rights) (hA : AllRights rights) (f : Nat → Nat)
    (dst src : Replica) (hfd : RoomFn f dst) (hfs : RoomFn f src) (hdist : DayRecordsDistinct src)
    (hzd : NoZombie dst) (hzs : NoZombie src) (hnd : IdsNodup dst) (hns : IdsNodup src)
    (hpk : PkFun (fun x => x ∈ dst.ntombs ∨ x ∈ src.ntombs))
    (hld : IsLogOf dst.sigs dst.log) (hls : IsLogOf src.sigs src.log) (hsig : SigsDetermine dst src) (room : Nat) :
    abs (pull d rights dst src room).dst = join (abs dst) (abs (inRoom src room)) ∧
    NoZombie (pull d rights dst src room).dst ∧ RoomFn f (pull d rights dst src room).dst :=
  ⟨pull_refines_join hI hS (hA.entitled src) ⟨Or.inr ⟨hfd, hfs⟩, Or.inr hdist, hzd, hzs, hns, hpk⟩ hnd hld hls hsig room,
   (pull_noZombie_rooms hI rights hzd hfd hfs room).1, (pull_noZombie_rooms hI rights hzd hfd hfs room).2.1⟩

open Discret.SyncOrder in
/-- **C03 (refinement, one pull, the code as it is but for the room summary).** `Defects.asImplemented` consults the
    deletion log and applies every deletion record of an answer; with the whole history compared (the one switch of
    the code that has to be off) a pull of the code's model is the join, for replicas in which rows keep their room,
    members holding every right and logs that are the logs of the content. -/
theorem C03_refines_pull_asImplemented_fullHistory (rights : Rights) (hA : AllRights rights) (f : Nat → Nat)
    (dst src : Replica) (hfd : RoomFn f dst) (hfs : RoomFn f src)
    (hzd : NoZombie dst) (hzs : NoZombie src) (hnd : IdsNodup dst) (hns : IdsNodup src)
    (hpk : PkFun (fun x => x ∈ dst.ntombs ∨ x ∈ src.ntombs))
    (hld : IsLogOf dst.sigs dst.log) (hls : IsLogOf src.sigs src.log) (hsig : SigsDetermine dst src) (room : Nat) :
    abs (pull { Defects.asImplemented with summaryFirstEntityOnly := false } rights dst src room).dst =
      join (abs dst) (abs (inRoom src room)) :=
  pull_refines_join rfl rfl (hA.entitled src) ⟨Or.inr ⟨hfd, hfs⟩, Or.inl rfl, hzd, hzs, hns, hpk⟩ hnd hld hls hsig room

/-- the model of the code with the whole history compared (#18 is repaired in /repo: `ingestIgnoresTombstones` is off
    in `Defects.asImplemented` already): the only switch of the model that `C03_refines_pull_code` needs off and the
    code has on is the room summary -/
def Defects.repaired18FullHistory : Defects :=
  { Defects.asImplemented with ingestIgnoresTombstones := false, summaryFirstEntityOnly := false }

open Discret.SyncOrder in
/-- the intended behaviour `Defects.none` has the four switches of `C03_refines_pull` off -/
theorem C03_refines_pull_intended (rights : Rights) (hA : AllRights rights) (dst src : Replica)
    (hzd : NoZombie dst) (hzs : NoZombie src) (hnd : IdsNodup dst) (hns : IdsNodup src)
    (hpk : PkFun (fun x => x ∈ dst.ntombs ∨ x ∈ src.ntombs))
    (hld : IsLogOf dst.sigs dst.log) (hls : IsLogOf src.sigs src.log) (hsig : SigsDetermine dst src) (room : Nat) :
    abs (pull Defects.none rights dst src room).dst = join (abs dst) (abs (inRoom src room)) :=
  C03_refines_pull Defects.none rfl rfl rfl rfl rights hA dst src hzd hzs hnd hns hpk hld hls hsig room

/-- a concrete pair of peers (one deletion, one concurrent update, two days): the pull and the join, row by row -/
def refineWorld : World :=
  World.run Defects.none (World.init [true, true])
    [.clock 1000, .write 0 (.new 1 1 0 1 11), .write 0 (.new 2 1 0 2 12), .compute 0, .pull 1 0 1,
     .clock 86401000, .write 1 (.upd 1 3 13 none), .write 1 (.del 2 14), .compute 1,
     .clock 86402000, .write 0 (.upd 1 4 15 none), .write 0 (.new 3 1 0 5 16), .compute 0]

open Discret.SyncOrder in
example :
    let dst := refineWorld.peer 1
    let src := refineWorld.peer 0
    let a := abs (pull Defects.none [some 0, some 0] dst src 1).dst
    let j := join (abs dst) (abs (inRoom src 1))
    [1, 2, 3, 4].map a.ver = [1, 2, 3, 4].map j.ver ∧ [1, 2, 3, 4].map a.dead = [1, 2, 3, 4].map j.dead ∧
    a.ver 1 = some (86402000, 15) ∧ a.ver 2 = none ∧ a.dead 2 = true ∧ a.ver 3 = some (86402000, 16) := by
  decide +kernel

/-- a pair of peers for the code-level refinement: peer 1 holds the deletion record of row 2 (pulled from peer 0's
    deletion), peer 2 has not seen it, still holds row 2 and has meanwhile updated row 1 and created row 3 -/
def refineCodeWorld : World :=
  World.run Defects.repaired18FullHistory (World.init [true, true, true])
    [.clock 1000, .write 0 (.new 1 1 0 1 11), .write 0 (.new 2 1 0 2 12), .compute 0, .pull 1 0 1, .pull 2 0 1,
     .clock 86401000, .write 0 (.del 2 14), .compute 0, .pull 1 0 1,
     .clock 86402000, .write 2 (.upd 1 4 15 none), .write 2 (.new 3 1 0 5 16), .compute 2]

open Discret.SyncOrder in
/-- non-vacuity of `C03_refines_pull_code` on the model of the repaired code: the puller holds a deletion record of
    row 2, the source offers row 2 (#18's path), a newer version of row 1 and a new row 3; the decidable hypotheses hold
    and the pull is the join, row by row: row 2 stays deleted, rows 1 and 3 arrive -/
example :
    let dst := refineCodeWorld.peer 1
    let src := refineCodeWorld.peer 2
    let a := abs (pull Defects.repaired18FullHistory [some 0, some 0, some 0] dst src 1).dst
    let j := join (abs dst) (abs (inRoom src 1))
    (∀ n ∈ dst.nodes ++ src.nodes, n.room = 1) ∧ (∀ t ∈ dst.ntombs ++ src.ntombs, t.room = 1) ∧
    (∀ t ∈ dst.ntombs, ∀ n ∈ dst.nodes, n.id ≠ t.id) ∧ src.ntombs = [] ∧ src.nodes.map (·.id) = [1, 2, 3] ∧
    [1, 2, 3, 4].map a.ver = [1, 2, 3, 4].map j.ver ∧ [1, 2, 3, 4].map a.dead = [1, 2, 3, 4].map j.dead ∧
    a.ver 1 = some (86402000, 15) ∧ a.ver 2 = none ∧ a.dead 2 = true ∧ a.ver 3 = some (86402000, 16) := by
  decide +kernel

/-! ### the pull of the code does not refine the join: witnesses (each replayed on real instances, corpus/C03) -/

def rowsAt (w : World) (p : Nat) : List (Nat × Nat × Nat) := (w.peer p).canon.nodes.map fun n => (n.id, n.mdate, n.sig)
def recsAt (w : World) (p : Nat) : List (Nat × Nat) := (w.peer p).canon.ntombs.map fun t => (t.id, t.sig)
def refsAt (w : World) (p : Nat) : List (Nat × Nat) := (w.peer p).canon.edges.map fun e => (e.src, e.dest)

/-- peer 2 may change its own rows only; peer 1 (all rows) updates peer 2's row, then peer 2 updates it later -/
def localAuthorTrace : List Op :=
  [.clock 1000, .write 2 (.new 1 1 0 1 11), .compute 2, .pull 0 2 1, .pull 1 2 1,
   .clock 2000, .write 1 (.upd 1 2 12 none), .compute 1, .clock 3000, .write 2 (.upd 1 3 13 none), .compute 2,
   .pull 0 1 1, .settle 1 4]

/-- **C03_breaks_rightDependsOnLocalAuthor** (#19). The right required of an incoming version depends on the
    author of the version stored locally: peers 0 and 1 (holding peer 1's version) refuse for ever the later
    version of peer 2, which they would have accepted had it arrived first. Quiescent, not converged. -/
theorem C03_breaks_rightDependsOnLocalAuthor :
    let w := World.run Defects.asImplemented (World.init [true, true, false]) localAuthorTrace
    rowsAt w 0 = [(1, 2000, 12)] ∧ rowsAt w 1 = [(1, 2000, 12)] ∧ rowsAt w 2 = [(1, 3000, 13)] ∧
    let w' := World.run { Defects.asImplemented with rightDependsOnLocalAuthor := false } (World.init [true, true, false])
      localAuthorTrace
    rowsAt w' 0 = [(1, 3000, 13)] ∧ rowsAt w' 1 = [(1, 3000, 13)] ∧ rowsAt w' 2 = [(1, 3000, 13)] := by
  decide +kernel

/-- peer 0 adds a reference 1→2 (re-signing row 1 at 2000) while peer 1 updates row 1 later (3000) -/
def lostReferenceTrace : List Op :=
  [.clock 1000, .write 0 (.new 1 1 0 1 11), .write 0 (.new 2 1 0 2 12), .compute 0, .pull 1 0 1,
   .clock 2000, .write 0 (.ref 1 2 13), .compute 0, .clock 3000, .write 1 (.upd 1 3 14 none), .compute 1, .settle 1 4]

/-- **C03_breaks_edgesOnlyForFetchedRows** (#30). References are fetched only for rows whose remote version
    wins, and they are not part of the daily hash: the reference added on peer 0 never reaches peer 1
    (whose version of the row is newer); once peer 0 has taken that version the two daily hashes are equal
    and the day is never looked at again. Same rows everywhere, different references, quiescent.
    (Fetching references for every announced row, `edgesOnlyForFetchedRows := false`, repairs the order
    `1 ← 0` first but not this one: a repair needs the references in the day's hash.) -/
theorem C03_breaks_edgesOnlyForFetchedRows :
    let w := World.run Defects.asImplemented (World.init [true, true]) lostReferenceTrace
    rowsAt w 0 = rowsAt w 1 ∧ refsAt w 0 = [(1, 2)] ∧ refsAt w 1 = [] := by
  decide +kernel

/-- the same row deleted on two peers on the same day -/
def twoRecordsTrace : List Op :=
  [.clock 1000, .write 0 (.new 1 1 0 1 11), .compute 0, .pull 1 0 1, .pull 2 0 1,
   .clock 2000, .write 0 (.del 1 12), .compute 0, .clock 3000, .write 1 (.del 1 13), .compute 1, .settle 1 5]

/-- **C03_breaks_deletionBatchKeyedById** (the code before `findings/C03-deletion-batch-keeps-every-record-v2.patch`;
    regression witness, replay `corpus/C03/two-deletion-records-one-batch.ops`). Deletion records of one answer were
    keyed by row id: of two records of one row only the later was kept, so peers 1 and 2 never stored the first one.
    Quiescent, the deletion records differ. With the answer split into sub-batches they agree. -/
theorem C03_breaks_deletionBatchKeyedById :
    let w := World.run { Defects.asImplemented with deletionBatchKeyedById := true } (World.init [true, true, true]) twoRecordsTrace
    recsAt w 0 = [(1, 12), (1, 13)] ∧ recsAt w 1 = [(1, 13)] ∧ recsAt w 2 = [(1, 13)] ∧
    let w' := World.run { Defects.asImplemented with deletionBatchKeyedById := false } (World.init [true, true, true]) twoRecordsTrace
    recsAt w' 0 = [(1, 12), (1, 13)] ∧ recsAt w' 1 = [(1, 12), (1, 13)] ∧ recsAt w' 2 = [(1, 12), (1, 13)] := by
  decide +kernel

/-- a room with two entities; peer 1 updates a row of the second entity -/
def firstEntityTrace : List Op :=
  [.clock 1000, .write 0 (.new 1 1 1 1 11), .write 0 (.new 2 1 0 2 12), .compute 0, .pull 1 0 1,
   .clock 2000, .write 1 (.upd 1 3 13 none), .compute 1, .settle 1 4]

/-- **C03_breaks_summaryFirstEntityOnly** (finding `room-summary-compares-first-entity-only`). The room summary
    exchanged at the start of a pull carries the last-day log row of ONE entity (the first of the join); when that
    entity's hashes agree the pull stops, although the daily hashes of the other entity differ: the update of the second entity never travels.
    Quiescent, not converged. With the full history compared it does. -/
theorem C03_breaks_summaryFirstEntityOnly :
    let w := World.run Defects.asImplemented (World.init [true, true]) firstEntityTrace
    rowsAt w 0 = [(1, 1000, 11), (2, 1000, 12)] ∧ rowsAt w 1 = [(1, 2000, 13), (2, 1000, 12)] ∧
    let w' := World.run { Defects.asImplemented with summaryFirstEntityOnly := false } (World.init [true, true]) firstEntityTrace
    rowsAt w' 0 = [(1, 2000, 13), (2, 1000, 12)] ∧ rowsAt w' 1 = [(1, 2000, 13), (2, 1000, 12)] := by
  decide +kernel

/-- one deletion, two pull orders -/
def deletionOrderA : List Op :=
  [.clock 1000, .write 0 (.new 1 1 0 1 11), .compute 0, .pull 1 0 1, .pull 2 0 1,
   .clock 2000, .write 0 (.del 1 12), .compute 0, .pull 1 0 1, .pull 2 0 1, .settle 1 4]
def deletionOrderB : List Op :=
  [.clock 1000, .write 0 (.new 1 1 0 1 11), .compute 0, .pull 1 0 1, .pull 2 0 1,
   .clock 2000, .write 0 (.del 1 12), .compute 0, .pull 1 0 1, .pull 1 2 1, .settle 1 4]

/-- **C03_breaks_ingestIgnoresTombstones** (#18, the code before `findings/C11-ingest-consults-deletion-log-v2.patch`;
    regression witness, replay `corpus/C03/deletion-order-dependent.ops`). The same writes, two pull orders: in one the row is deleted
    everywhere, in the other it is back everywhere — the converged state depends on the order of the pulls. -/
theorem C03_breaks_ingestIgnoresTombstones :
    let wa := World.run { Defects.asImplemented with ingestIgnoresTombstones := true } (World.init [true, true, true]) deletionOrderA
    let wb := World.run { Defects.asImplemented with ingestIgnoresTombstones := true } (World.init [true, true, true]) deletionOrderB
    rowsAt wa 0 = [] ∧ rowsAt wa 1 = [] ∧ rowsAt wa 2 = [] ∧
    rowsAt wb 0 = [(1, 1000, 11)] ∧ rowsAt wb 1 = [(1, 1000, 11)] ∧ rowsAt wb 2 = [(1, 1000, 11)] ∧
    recsAt wa 0 = recsAt wb 0 := by
  decide +kernel

end Discret.Sync
