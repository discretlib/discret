import DiscretModel.Lemmas.Digest
import DiscretModel.Gen.DigestLayout
/-
C06 — A signature binds exactly one row and only its author can produce it.

Model: `Model/Digest.lean` (how a field reaches the hasher; idealised hash and signatures) over the
field lists REGENERATED from the sources by translator T2 (`Gen/DigestLayout.lean`). No bound on field
lengths or contents other than those of the Rust types (`WF`: 16-byte ids, 33-byte keys, `i64` dates, lengths below 2^64).

The full statement is FALSE of the code (`Defects.asImplemented`; DESIGN.md §4, sites 16 and 17): the
`C06_breaks_*` witnesses are concrete pairs; each is replayed on the real `sign`/`verify` by the check
(corpus/C06).
-/
namespace Discret.Digest
open Discret.Digest.Gen

def msg (d : Defects) (k : Kind) (r : Row) : Bytes := encode d k (layoutOf k) r

/-- the row is well-typed for its kind (16-byte ids, 33-byte key, `i64` dates, lengths below 2^64) -/
def WF (k : Kind) (r : Row) : Prop := rowOk (layoutOf k) r = true

instance (k : Kind) (r : Row) : Decidable (WF k r) := by unfold WF; infer_instance

/-- **C06 (full, part 1).** With lengths, presence and kind bound (`Defects.none`) the digest input is an
    injective function of (kind, row) on the disjoint union of all signed kinds, rows of every length and
    content: the tag gives the kind, the bytes after it the shape of the row, and within a shape class the
    row is determined under any encoding (`C06_partial`). -/
theorem C06_full_injective {d : Defects} (hl : d.lengthsUnbound = false) (hp : d.presenceUnbound = false)
    (hk : d.kindUnbound = false) (k₁ k₂ : Kind) (r₁ r₂ : Row) (h₁ : WF k₁ r₁) (h₂ : WF k₂ r₂)
    (h : msg d k₁ r₁ = msg d k₂ r₂) : k₁ = k₂ ∧ r₁ = r₂ := by
  simp only [msg, encode, kindTag, hk, Bool.false_eq_true, if_false, List.cons_append,
    List.nil_append, List.cons.injEq] at h
  have hk := Kind.tag_inj h.1
  subst hk
  exact ⟨rfl, encFields_inj_of_shape _ _ _ _ h₁ h₂ (encFields_bound_shape hl hp _ _ _ h₁ h₂ h.2) h.2⟩

/-- **C06 (full, part 1').** A signature made for one row verifies for no row that differs from it in
    any field, nor for a row of another kind. -/
theorem C06_full_signature_binds_one_row (k₁ k₂ : Kind) (sk : Bytes) (r₁ r₂ : Row)
    (h₁ : WF k₁ (setKey sk (layoutOf k₁) r₁)) (h₂ : WF k₂ r₂)
    (h : sigValid Defects.none k₂ (layoutOf k₂) r₂ (signRow Defects.none k₁ (layoutOf k₁) sk r₁) = true) :
    k₁ = k₂ ∧ setKey sk (layoutOf k₁) r₁ = r₂ :=
  C06_full_injective rfl rfl rfl _ _ _ _ h₁ h₂ (sigValid_msg h)

/-- **C06 (full, part 2).** Nothing a peer can ask a running instance to sign (identity challenge,
    announce header, invitation — whatever bytes it submits) verifies as a row of any stored kind. -/
theorem C06_full_requests_safe (me : Bytes) (q : Request) (k : Kind) (r : Row) (hk : k.isRow = true)
    (hq : WF q.kind q.row) (hr : WF k r) :
    sigValid Defects.none k (layoutOf k) r (answer Defects.none layoutOf me q) = false := by
  refine Bool.eq_false_iff.mpr fun hs => ?_
  have hm : msg Defects.none q.kind q.row = msg Defects.none k r := by
    have h2 := sigValid_msg hs
    cases q <;> simpa [answer, hash, msg, Defects.none, Request.kind, Request.row] using h2
  rw [← (C06_full_injective rfl rfl rfl _ _ _ _ hq hr hm).1] at hk
  cases q <;> cases hk

/-- the layouts of the four stored kinds: each has a key field, and its fixed-size fields alone take 65 bytes -/
theorem row_layouts (k : Kind) (hk : k.isRow = true) :
    (layoutOf k).any (fun f => f.ty == .key) = true ∧ 65 ≤ minLen (layoutOf k) := by
  revert hk; cases k <;> decide

/-- a signed row verifies as stored (every layout with a key field; both encodings) -/
theorem C06_signed_row_verifies (d : Defects) (k : Kind) (sk : Bytes) (r : Row) (hk : k.isRow = true)
    (h : WF k r) : sigValid d k (layoutOf k) (setKey sk (layoutOf k) r) (signRow d k (layoutOf k) sk r) = true := by
  simp [sigValid, signRow, rowKey_setKey sk _ _ h (row_layouts k hk).1]

def uid (b : Nat) : Bytes := List.replicate 16 b
def key (b : Nat) : Bytes := 1 :: List.replicate 32 b

/-- two different rows, of one kind or of two, with the same digest input in the code as it is -/
def Collide (k₁ k₂ : Kind) (r₁ r₂ : Row) : Prop :=
  WF k₁ r₁ ∧ WF k₂ r₂ ∧ (k₁ ≠ k₂ ∨ r₁ ≠ r₂) ∧ msg Defects.asImplemented k₁ r₁ = msg Defects.asImplemented k₂ r₂

instance (k₁ k₂ : Kind) (r₁ r₂ : Row) : Decidable (Collide k₁ k₂ r₁ r₂) := by unfold Collide; infer_instance

/-- **C06_breaks_entityJsonBoundary.** `_entity` and the JSON-quoted `_json` are concatenated without
    lengths: entity `a` with `_json = {}` and entity `a"{}"` without `_json` sign the same bytes. -/
theorem C06_breaks_entityJsonBoundary :
    Collide .node .node
      [.bytes (uid 1), .opt none, .int 1000, .int 2000, .bytes [97], .opt (some [123, 125]), .opt none, .bytes (key 7)]
      [.bytes (uid 1), .opt none, .int 1000, .int 2000, .bytes [97, 34, 123, 125, 34], .opt none, .opt none, .bytes (key 7)] := by
  decide +kernel

/-- **C06_breaks_entityLabelBoundary.** `src_entity` and `label` of a reference: (`ab`,`c`) and (`a`,`bc`). -/
theorem C06_breaks_entityLabelBoundary :
    Collide .edge .edge
      [.bytes (uid 1), .bytes [97, 98], .bytes [99], .bytes (uid 2), .int 1000, .bytes (key 7)]
      [.bytes (uid 1), .bytes [97], .bytes [98, 99], .bytes (uid 2), .int 1000, .bytes (key 7)] := by
  decide +kernel

/-- **C06_breaks_optionalRoom.** The presence of `room_id` is not hashed: a row in room `R` equals a
    room-less row whose dates are the two halves of `R` and whose entity starts with the old dates. -/
theorem C06_breaks_optionalRoom :
    Collide .node .node
      [.bytes (uid 3), .opt (some [1, 0, 0, 0, 0, 0, 0, 0, 2, 0, 0, 0, 0, 0, 0, 0]), .int 100, .int 101,
        .bytes [97], .opt none, .opt none, .bytes (key 7)]
      [.bytes (uid 3), .opt none, .int 1, .int 2,
        .bytes [100, 0, 0, 0, 0, 0, 0, 0, 101, 0, 0, 0, 0, 0, 0, 0, 97], .opt none, .opt none, .bytes (key 7)] := by
  decide +kernel

/-- **C06_breaks_optionalBinary.** An empty `_binary` and an absent one. -/
theorem C06_breaks_optionalBinary :
    Collide .node .node
      [.bytes (uid 3), .opt none, .int 1, .int 2, .bytes [97], .opt none, .opt (some []), .bytes (key 7)]
      [.bytes (uid 3), .opt none, .int 1, .int 2, .bytes [97], .opt none, .opt none, .bytes (key 7)] := by
  decide +kernel

/-- **C06_breaks_crossKind.** No domain separation: the deletion record of row `I` (room `R`, entity
    `abcdefghX`) is also the signature of a *row* with id `R` in room `I`, entity `X`. -/
theorem C06_breaks_crossKind :
    Collide .nodeDel .node
      [.bytes (uid 4), .bytes (uid 5), .int 1000, .bytes [97, 98, 99, 100, 101, 102, 103, 104, 88], .int 3000, .bytes (key 7)]
      [.bytes (uid 4), .opt (some (uid 5)), .int 1000, .int 7523094288207667809, .bytes [88], .opt none,
        .opt (some [184, 11, 0, 0, 0, 0, 0, 0]), .bytes (key 7)] := by
  decide +kernel

/-- **C06_breaks_challengeOracle (general form).** For EVERY row naming the instance's key as its
    author, the instance itself returns a valid signature to any peer that submits the row's digest
    as an identity challenge. -/
theorem C06_breaks_challengeOracle_all (k : Kind) (r : Row) (me : Bytes)
    (hkey : rowKey (layoutOf k) r = some me) :
    sigValid Defects.asImplemented k (layoutOf k) r
      (answer Defects.asImplemented layoutOf me (.challenge (hash (msg Defects.asImplemented k r)))) = true := by
  simp [sigValid, answer, Defects.asImplemented, hkey, msg]

/-- **C06_breaks_challengeOracle.** A concrete row the instance never signed, accepted by `verify()`
    (prechecks included) with the answer to one `ProveIdentity` request. -/
theorem C06_breaks_challengeOracle :
    let forged : Row := [.bytes (uid 9), .opt (some (uid 8)), .int 5, .int 6, .bytes [49, 46, 48],
      .opt (some [123, 125]), .opt none, .bytes (key 7)]
    WF .node forged ∧
    oracleAttack Defects.asImplemented layoutOf (key 7) (hash (msg Defects.asImplemented .node forged))
      .node forged true = .accept ∧
    oracleAttack Defects.none layoutOf (key 7) (hash (msg Defects.none .node forged)) .node forged true = .reject := by
  decide +kernel

/-- **C06_partial.** Within a shape class — same kind, same presence flags, same encoded lengths of
    every field — the digest input determines the row: a signature is valid for no other row *of the
    same shape*, for fields of arbitrary length. What is missing with respect to the full statement:
    rows of different shapes or kinds can collide (witnesses above). -/
theorem C06_partial (k : Kind) (r₁ r₂ : Row) (h₁ : WF k r₁) (h₂ : WF k r₂)
    (hs : shape Defects.asImplemented (layoutOf k) r₁ = shape Defects.asImplemented (layoutOf k) r₂)
    (h : msg Defects.asImplemented k r₁ = msg Defects.asImplemented k r₂) : r₁ = r₂ := by
  simp only [msg, encode, kindTag, Defects.asImplemented, if_true, List.nil_append] at h
  exact encFields_inj_of_shape _ _ _ _ h₁ h₂ hs h

/-- the same, phrased on signatures: moving a signature between two rows of one shape class works
    only if they are the same row -/
theorem C06_partial_signature (k : Kind) (sk : Bytes) (r₁ r₂ : Row)
    (h₁ : WF k (setKey sk (layoutOf k) r₁)) (h₂ : WF k r₂)
    (hs : shape Defects.asImplemented (layoutOf k) (setKey sk (layoutOf k) r₁)
        = shape Defects.asImplemented (layoutOf k) r₂)
    (h : sigValid Defects.asImplemented k (layoutOf k) r₂ (signRow Defects.asImplemented k (layoutOf k) sk r₁) = true) :
    setKey sk (layoutOf k) r₁ = r₂ :=
  C06_partial k _ _ h₁ h₂ hs (sigValid_msg h)

/-- **T2 obligation: every stored field is signed.** Every stored or transmitted field of every kind
    (signature and `serde(skip)` fields excepted) occurs in the kind's digest — decided on the table
    regenerated from the sources: dropping a field from a digest breaks this theorem. -/
theorem C06_layout_covers_stored (k : Kind) :
    (storedOf k).all (fun f => (layoutOf k).any (fun s => s.name == f)) = true ∧
    ((layoutOf k).map (·.name)).Nodup := by
  cases k <;> decide +kernel

/-- **T2 obligation:** `sign` and `verify` of the deletion records hash the same fields in the same order -/
theorem C06_sign_layout_eq_verify_layout (k : Kind) : signLayoutOf k = layoutOf k := by
  cases k <;> rfl

/-- **T2 obligation:** the model's switches describe the source read on this run -/
theorem C06_asImplemented_matches_source :
    proveIdentitySignsRaw = Defects.asImplemented.challengeSignedRaw ∧
    importKeyIndexesBeforeLengthCheck = Defects.asImplemented.emptyKeyPanics := by decide

/-- **C06_partial (requests).** The announce signature (a digest of exactly 48 bytes) is valid for no
    stored row: every row digest is longer. (The invitation digest is *not* separated from the row
    digests; its content is chosen locally, not by a peer.) -/
theorem C06_partial_announce_safe (me e c : Bytes) (k : Kind) (r : Row) (hk : k.isRow = true)
    (hq : WF .announce [.bytes e, .bytes c]) (hr : WF k r) :
    sigValid Defects.asImplemented k (layoutOf k) r (answer Defects.asImplemented layoutOf me (.announce e c)) = false := by
  refine Bool.eq_false_iff.mpr fun hs => ?_
  have hlen := congrArg List.length (sigValid_msg hs)
  simp only [answer, hash, Request.kind, Request.row, encode, kindTag, Defects.asImplemented,
    if_true, List.nil_append] at hlen
  have hge := encFields_length_ge Defects.asImplemented (layoutOf k) r hr
  have h48 : (encFields Defects.asImplemented (layoutOf .announce) [.bytes e, .bytes c]).length = 48 := by
    simp only [WF, layoutOf, rowOk, valOk, Bool.and_eq_true, beq_iff_eq, and_true] at hq
    simp [layoutOf, encFields, encVal, hq.1, hq.2]
  have hmin := (row_layouts k hk).2
  simp only [Defects.asImplemented] at hge h48
  omega

/-! ### non-vacuity -/

-- a well-formed node with every optional field present, in a shape class with more than one member
example : WF .node [.bytes (uid 1), .opt (some (uid 2)), .int (-5), .int 1700000000000, .bytes [49, 46, 48],
    .opt (some [123, 34, 97, 34, 58, 49, 125]), .opt (some [0, 255]), .bytes (key 7)] := by decide +kernel

example :
    let r₁ : Row := [.bytes (uid 1), .opt (some (uid 2)), .int 1, .int 2, .bytes [97], .opt (some [123, 125]), .opt none, .bytes (key 7)]
    let r₂ : Row := [.bytes (uid 1), .opt (some (uid 2)), .int 1, .int 3, .bytes [98], .opt (some [123, 125]), .opt none, .bytes (key 7)]
    WF .node r₁ ∧ WF .node r₂ ∧ r₁ ≠ r₂ ∧
    shape Defects.asImplemented (layoutOf .node) r₁ = shape Defects.asImplemented (layoutOf .node) r₂ ∧
    msg Defects.asImplemented .node r₁ ≠ msg Defects.asImplemented .node r₂ := by decide +kernel

-- the pairs that collide for the code are separated by the binding encoding
example : msg Defects.none .node
      [.bytes (uid 1), .opt none, .int 1000, .int 2000, .bytes [97], .opt (some [123, 125]), .opt none, .bytes (key 7)]
    ≠ msg Defects.none .node
      [.bytes (uid 1), .opt none, .int 1000, .int 2000, .bytes [97, 34, 123, 125, 34], .opt none, .opt none, .bytes (key 7)] := by
  decide +kernel

-- requests are well-formed for all three request kinds
example : WF (Request.challenge [1, 2, 3]).kind (Request.challenge [1, 2, 3]).row ∧
    WF .announce [.bytes (uid 1), .bytes (List.replicate 32 9)] ∧ WF .invite [.bytes (uid 1), .bytes [97, 112, 112]] := by decide +kernel

-- JSON quoting: `{"a":"\n"}` is fed as `"{\"a\":\"\\n\"}"`
example : jsonQuote [123, 34, 97, 34, 58, 34, 92, 110, 34, 125] =
    [34, 123, 92, 34, 97, 92, 34, 58, 92, 34, 92, 92, 110, 92, 34, 125, 34] := by decide +kernel

end Discret.Digest
