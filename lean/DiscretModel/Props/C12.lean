import DiscretModel.Lemmas.LocalWriteFixtures
import DiscretModel.Lemmas.LocalWriteIngest
/-
C12 — Local acceptance and peer acceptance give the same verdict.

Models: `Model/LocalWrite.lean` (local path: plan, `validate_entity_mutation`, write — engine `room`, tied by
the C01/C12 runs) and `Model/Ingest.lean` (peer path: `filter_existing`, `add_nodes`, `validate_node`, … —
engine `ingest`, tied by the C02 run), over the shared room model. `Lemmas/LocalWriteIngest.lean` says how a
locally written row looks to a peer (`toInNode`: validly signed, conforming, below the size limit — both
paths apply the same predicates to the same signed row) and what the peer holds (`peerWith rooms`: the same
room definitions; `c.old`: the same previous version of the row).

All statements: every list of room definitions, every database, caller, date and operation.
-/
namespace Discret.LocalWrite
open Discret.Room

/-- **C12 (row level, both directions).** Intended behaviour on both sides. A change that writes row `n` into a
    room at date `now` — a new row, an own row, a foreign row, a row arriving from another room — and that removes no
    reference signed by somebody else gets the same verdict from the local right check as the signed row gets from
    `validate_node` on a peer that holds the same room definitions and the same previous version: accepted locally
    iff accepted by the peer. Same author (the caller signs), same entity, same rooms (the room entered and the room
    left), same date, same needed right (own-rows iff the previous author is the caller or there is no previous
    version). (A change that removes references of other authors: `C12_change_verdict`.) -/
theorem C12_row_verdict {rooms : List Room} {caller : Key} {now : Int} {c : Change} {n : Row} {rid : Id}
    (hroom : c.roomId = some rid) (hn : n.room = some rid) (he : n.entity = c.entity) (hd : n.mdate = now)
    (hold : ∀ o, c.old = some o → o.entity = c.entity ∧ o.room ≠ none)
    (hown : c.edgeDels.any (fun e => e.author != caller) = false) :
    localOk Defects.none rooms caller now c = peerOk Ingest.Defects.none rooms caller c n :=
  row_verdict _ _ (Or.inl rfl) hown hroom hn he hd hold

/-- **C12 (change level, both directions: row AND deletion records).** Intended behaviour on the local side, any
    switches on the peer's. A change that writes row `n` into room `rid` at date `now` and removes the references
    `c.edgeDels` is accepted locally **iff** a peer holding the same room definitions (`p.rooms = rooms`), the same
    previous version of the row and the removed references (with their authors) accepts the row (`validate_node`)
    and every deletion record the change sends (`validate_edge_deletions`: own-rows right for a reference of the
    record's author, all-rows right for somebody else's). `Normalised`: what `EntityRight::new` guarantees. -/
theorem C12_change_verdict {d : Ingest.Defects} {p : Ingest.Inst} {rooms : List Room} (hp : p.rooms = rooms)
    {caller : Key} {now : Int} {c : Change} {n : Row} {rid : Id}
    (hroom : c.roomId = some rid) (hn : n.room = some rid) (he : n.entity = c.entity) (hd : n.mdate = now)
    (hold : ∀ o, c.old = some o → o.entity = c.entity ∧ o.room ≠ none)
    (hent : DataEnt d c.entity) (hnorm : ∀ room, getRoom rooms rid = some room → Normalised room)
    (hsrc : ∀ e ∈ c.edgeDels, d.edgeDelSourceUnchecked = true ∨
      Ingest.edgeDelSourceOk p (toEdgeDel c.entity (tombOf rid caller now e)) = true)
    (hheld : ∀ e ∈ c.edgeDels,
      (p.edges.find? (Ingest.edgeMatches (toEdgeDel c.entity (tombOf rid caller now e)))).map (·.key) = some e.author) :
    localOk Defects.none rooms caller now c =
      (peerOk Ingest.Defects.none rooms caller c n &&
        c.edgeDels.all fun e => Ingest.edgeDelAccepted d p (toEdgeDel c.entity (tombOf rid caller now e))) := by
  rw [localOk_eq hroom, peerOk_eq_rowOk Defects.none _ (Or.inl rfl) hroom hn he hd hold, changeOk_eq_records rfl hnorm]
  congr 1
  rw [Bool.eq_iff_iff, List.all_eq_true, List.all_eq_true]
  exact forall₂_congr fun e he => by rw [edge_record_verdict hp hent (hsrc e he) (hheld e he)]

/-- **C12 (operation level: accepted locally ⇒ accepted by the peers).** Intended behaviour. After an accepted
    mutation, every row that was written into a room (and whose previous version, if any, was in a room) is
    accepted by every peer holding the same room definitions and that previous version. -/
theorem C12_accepted_rows_reach_peers {rooms : List Room} {db db' : Db} {caller : Key} {now : Int} {m : Mut}
    {cs : List Change} (hp : plan db now m = .ok cs)
    (h : mutate Defects.none rooms db caller now m = .ok db') :
    ∀ c ∈ cs, ∀ n rid, c.node = some n → c.roomId = some rid → n.mdate = now →
      (∀ o, c.old = some o → o.entity = c.entity ∧ o.room ≠ none) →
      peerOk Ingest.Defects.none rooms caller c n = true := by
  intro c hc n rid hn hroom hd hold
  have hpl := plan_planned hp c hc
  rw [peerOk_eq_rowOk Defects.none _ (Or.inl rfl) hroom ((hpl.node n hn).2.trans hroom) (hpl.node n hn).1 hd hold]
  obtain ⟨_, _, _, hok⟩ := mutate_accepted hp h
  exact changeOk_row (hok c hc (hn ▸ Option.some_ne_none n) rfl rid hroom)

/-- **C12 (operation level: refused by the peers ⇒ refused locally).** Intended behaviour. If a peer holding the
    same definitions and previous versions would refuse a row the mutation writes, the mutation is refused
    locally. (Contrapositive of the theorem above, stated for the reader.) -/
theorem C12_peer_refusal_is_local_refusal {rooms : List Room} {db : Db} {caller : Key} {now : Int} {m : Mut}
    {cs : List Change} (hp : plan db now m = .ok cs)
    {c : Change} (hc : c ∈ cs) {n : Row} {rid : Id} (hn : c.node = some n) (hroom : c.roomId = some rid)
    (hd : n.mdate = now) (hold : ∀ o, c.old = some o → o.entity = c.entity ∧ o.room ≠ none)
    (hpeer : peerOk Ingest.Defects.none rooms caller c n = false) :
    ∀ db', mutate Defects.none rooms db caller now m ≠ .ok db' := by
  intro db' h
  have := C12_accepted_rows_reach_peers hp h c hc n rid hn hroom hd hold
  rw [hpeer] at this; cases this

/-- **C12 (operation level: the deletion records of an accepted mutation reach the peers).** Intended behaviour.
    After an accepted mutation (a tree of any depth), every deletion record sent for a reference removed at a row of
    room `rid` is accepted by every peer holding the same room definitions and the removed reference. -/
theorem C12_accepted_records_reach_peers {d : Ingest.Defects} {p : Ingest.Inst} {rooms : List Room}
    (hp : p.rooms = rooms) {db db' : Db} {caller : Key} {now : Int} {m : Mut} {cs : List Change}
    (hpl : plan db now m = .ok cs) (h : mutate Defects.none rooms db caller now m = .ok db') :
    ∀ c ∈ cs, ∀ rid, c.node ≠ none → c.roomId = some rid → DataEnt d c.entity →
      (∀ room, getRoom rooms rid = some room → Normalised room) →
      ∀ e ∈ c.edgeDels,
        (d.edgeDelSourceUnchecked = true ∨
          Ingest.edgeDelSourceOk p (toEdgeDel c.entity (tombOf rid caller now e)) = true) →
        (p.edges.find? (Ingest.edgeMatches (toEdgeDel c.entity (tombOf rid caller now e)))).map (·.key)
          = some e.author →
        Ingest.edgeDelAccepted d p (toEdgeDel c.entity (tombOf rid caller now e)) = true := by
  intro c hc rid hne hroom hent hnorm e he hsrc hheld
  obtain ⟨_, _, _, hok⟩ := mutate_accepted hpl h
  have hok := hok c hc hne rfl rid hroom
  rw [changeOk_eq_records rfl hnorm, Bool.and_eq_true] at hok
  rw [edge_record_verdict hp hent hsrc hheld]
  exact List.all_eq_true.mp hok.2 e he

/-- **C12 (operation level: the references added by an accepted mutation reach the peers).** Intended behaviour.
    After an accepted mutation (a tree of any depth), every reference it adds at a row of room `rid` is accepted by
    every peer holding the same room definitions, the written source row, and — as the local database — no reference
    with the same source, label and target. -/
theorem C12_accepted_references_reach_peers {d : Ingest.Defects} {p : Ingest.Inst} {rooms : List Room}
    (hp : p.rooms = rooms) {db db' : Db} {caller : Key} {now : Int} {m : Mut} {cs : List Change}
    (hpl : plan db now m = .ok cs) (h : mutate Defects.none rooms db caller now m = .ok db') :
    ∀ c ∈ cs, ∀ rid, c.roomId = some rid → DataEnt d c.entity →
      (∀ room, getRoom rooms rid = some room → Normalised room) →
      ∀ e ∈ c.edgeIns, e.cdate = now →
        (d.edgeSourceUnchecked = true ∨
          Ingest.edgeSourceOk p rid (toInEdge c.entity (signEdge caller e)).row = true) →
        (d.edgeReplaceUnchecked = true ∨
          p.edges.find? (Ingest.edgeKeyEq (toInEdge c.entity (signEdge caller e)).row) = none) →
        Ingest.edgeAccepted d p rid p.edges (toInEdge c.entity (signEdge caller e)) = true := by
  intro c hc rid hroom hent hnorm e he hdate hsrc hfresh
  have hne : c.node ≠ none := fun hnone => by
    rw [((plan_planned hpl c hc).quiet hnone).2] at he; cases he
  obtain ⟨_, _, _, hok⟩ := mutate_accepted hpl h
  have hself := canB_needed_self hnorm (rowOk_enters (changeOk_row (hok c hc hne rfl rid hroom)))
  -- a reference the peer does not hold is a new one: the own-rows right is asked
  have hneed : Ingest.edgeNeed d p.edges (toInEdge c.entity (signEdge caller e)).row = .mutateSelf := by
    unfold Ingest.edgeNeed
    rcases hfresh with h | h
    · rw [h]; rfl
    · rw [h]; split <;> rfl
  unfold Ingest.edgeAccepted
  rw [hneed, canIn_eq_canB hp, Bool.or_eq_true_iff.mpr hsrc]
  simp only [toInEdge, signEdge, hdate, hent.1, hent.2, hself, Bool.and_self]

/-- **C12 (node deletion, both directions).** Any switches. The deletion of a stored row of room `rid` is accepted
    locally iff a peer holding the same room definitions and the same row accepts the deletion record and — unless
    `incomingRefsUnchecked` is on — the caller may edit every row that references the deleted one (`incomingOk`). -/
theorem C12_delete_node_verdict {df : Defects} {d : Ingest.Defects} {p : Ingest.Inst} {rooms : List Room}
    (hp : p.rooms = rooms) {db : Db} {caller : Key} {now : Int} {handle : Nat} {entity : Ent} {row : Row} {rid : Id}
    (hrow : db.getRow handle entity = some row) (hr : row.room = some rid) (hent : DataEnt d entity)
    {l : Ingest.NodeRow} (hheld : Ingest.localRow p.nodes handle = some l) (hlk : l.key = row.author)
    (hle : l.ent = entity) :
    (deleteNode df rooms db caller now handle entity).toBool =
      ((df.incomingRefsUnchecked || incomingOk rooms db caller now handle) &&
        Ingest.nodeDelAccepted d p (toNodeDel (nodeTombOf rid caller now row))) := by
  obtain ⟨hid, hre⟩ := getRow_id hrow
  have hacc : Ingest.nodeDelAccepted d p (toNodeDel (nodeTombOf rid caller now row)) =
      canB rooms rid caller entity now (if row.author = caller then .mutateSelf else .mutateAll) := by
    unfold Ingest.nodeDelAccepted
    simp only [toNodeDel, nodeTombOf, hid, hheld, hre, hle, hent.1, hent.2, canIn_eq_canB hp, Bool.true_and,
      Option.map_some, Ingest.needRight, hlk, decide_true, Bool.or_true]
  rw [hacc, toBool_of_ok_iff fun _ => deleteNode_ok_iff hrow, hr]

/-- **C12 (reference deletion, both directions).** Intended behaviour on the local side. The deletion of an existing
    reference stored at a row of room `rid` is accepted locally iff a peer holding the same room definitions, the
    source row and the reference accepts the re-signed source row (`validate_node`) AND the deletion record. -/
theorem C12_delete_ref_verdict {d : Ingest.Defects} {p : Ingest.Inst} {rooms : List Room} (hp : p.rooms = rooms)
    {db : Db} {caller : Key} {now : Int} {handle : Nat} {entity : Ent} {label dest : Nat} {row : Row} {edge : EdgeRow}
    {rid : Id} (hrow : db.getRow handle entity = some row) (hr : row.room = some rid)
    (hedge : db.edges.find? (fun e => e.src = handle && e.label = label && e.dest = dest) = some edge)
    (hent : DataEnt d entity) (hnorm : ∀ room, getRoom rooms rid = some room → Normalised room)
    (hsrc : d.edgeDelSourceUnchecked = true ∨
      Ingest.edgeDelSourceOk p (toEdgeDel entity (tombOf rid caller now edge)) = true)
    (hheld : (p.edges.find? (Ingest.edgeMatches (toEdgeDel entity (tombOf rid caller now edge)))).map (·.key)
      = some edge.author) :
    (deleteRef Defects.none rooms db caller now handle entity label dest).toBool =
      (Ingest.validateNode Ingest.Defects.none (peerWith rooms []) (toInNode (resigned caller now row))
          (some (toNodeRow row)) &&
        Ingest.edgeDelAccepted d p (toEdgeDel entity (tombOf rid caller now edge))) := by
  rw [resigned_row_verdict hr, edge_record_verdict hp hent hsrc hheld, (getRow_id hrow).2,
    deleteRef_toBool hrow hr hedge]
  -- the local side asks the all-rows right unless both are the caller's; the peer asks it for each that is not:
  -- the same, since the all-rows right implies the own-rows right
  have himp := canB_all_self (k := caller) (e := entity) (d := now) hnorm
  cases ha : canB rooms rid caller entity now .mutateAll with
  | true => simp only [apply_ite (canB rooms rid caller entity now), ha, himp ha, ite_self, Bool.and_self]
  | false => by_cases he : edge.author = caller <;> by_cases hw : row.author = caller <;> simp [Defects.none, he, hw, ha]

-- member 2 (all-rows right in room 0) updates its row 0: accepted locally, and by the peer
example : localOk Defects.none rooms01 2 4
    { entity := 1, roomId := some 0, old := some ⟨0, 1, some 0, 2, 2, 2, 1⟩,
      node := some ⟨0, 1, some 0, 0, 2, 4, 7⟩, edgeDels := [], edgeIns := [] } = true ∧
    peerOk Ingest.Defects.none rooms01 2
    { entity := 1, roomId := some 0, old := some ⟨0, 1, some 0, 2, 2, 2, 1⟩,
      node := some ⟨0, 1, some 0, 0, 2, 4, 7⟩, edgeDels := [], edgeIns := [] } ⟨0, 1, some 0, 0, 2, 4, 7⟩ = true := by
  decide +kernel

-- member 3 (own-rows right only) updates the foreign row 0: refused locally, and by the peer
example : localOk Defects.none rooms01 3 4
    { entity := 1, roomId := some 0, old := some ⟨0, 1, some 0, 2, 2, 2, 1⟩,
      node := some ⟨0, 1, some 0, 0, 2, 4, 7⟩, edgeDels := [], edgeIns := [] } = false ∧
    peerOk Ingest.Defects.none rooms01 3
    { entity := 1, roomId := some 0, old := some ⟨0, 1, some 0, 2, 2, 2, 1⟩,
      node := some ⟨0, 1, some 0, 0, 2, 4, 7⟩, edgeDels := [], edgeIns := [] } ⟨0, 1, some 0, 0, 2, 4, 7⟩ = false := by
  decide +kernel

/-! ### with a defect: accepted locally, refused by every peer

Each witness turns ONE local switch on over the intended behaviour. -/

/-- the peer's verdict on row `id` of the database a local operation produced, given the
    previous version `old` the peer holds -/
def peerVerdictOn (rooms : List Room) (r : Except MErr Db) (id : Nat) (old : Option Row) : Bool :=
  match r with
  | .ok db =>
    match db.rows.find? (·.id = id) with
    | some n => Ingest.validateNode Ingest.Defects.none (peerWith rooms []) (toInNode n) (old.map toNodeRow)
    | none => false
  | .error _ => false

/-- **C12_breaks_subNodesSkipped (#1).** The outsider 5 rewrites row 0 nested under the unchanged row 1: accepted
    locally; the row it produced is refused by a peer holding the same room and the previous version. The author
    sees its write; nobody else ever does. -/
theorem C12_breaks_subNodesSkipped :
    (mutate { Defects.none with subNodesSkipped := true } rooms01 db0 5 4 nestedByOutsider).toBool = true ∧
    peerVerdictOn rooms01 (mutate { Defects.none with subNodesSkipped := true } rooms01 db0 5 4 nestedByOutsider) 0
      (db0.rows.find? (·.id = 0)) = false := by decide +kernel

/-- **C12_breaks_oldRoomLookup (#2).** Member 3 moves the foreign row 0 from room 0 (own-rows right only) to room 1
    (all-rows right): accepted locally, refused by the peers, which check the departing room. -/
theorem C12_breaks_oldRoomLookup :
    (mutate { Defects.none with oldRoomLookup := true } rooms01 db0 3 4
      (.mk 0 false 1 (some 1) (some 5) .none)).toBool = true ∧
    peerVerdictOn rooms01 (mutate { Defects.none with oldRoomLookup := true } rooms01 db0 3 4
      (.mk 0 false 1 (some 1) (some 5) .none)) 0
      (db0.rows.find? (·.id = 0)) = false := by decide +kernel

/-- **C12_breaks_refDeletionResign (#3).** The outsider 5 deletes a reference that does not exist: accepted
    locally, row 0 re-signed by key 5; the peers refuse that row. -/
theorem C12_breaks_refDeletionResign :
    (deleteRef { Defects.none with refDeletionResign := true } rooms01 db0 5 4 0 1 0 1).toBool = true ∧
    peerVerdictOn rooms01 (deleteRef { Defects.none with refDeletionResign := true } rooms01 db0 5 4 0 1 0 1) 0
      (db0.rows.find? (·.id = 0)) = false := by decide +kernel

/-- **C12_breaks_refRightOnEdgeAuthor (#3, second half; fixed in /repo: 301f3d3).** Member 3 (own-rows right only) deletes the
    reference it once added at row 1, which belongs to member 2: accepted locally (the right is judged on the
    reference's author); the peers refuse the re-signed row 1 (`validate_node` asks the all-rows right). With the switch
    off it is refused locally. -/
theorem C12_breaks_refRightOnEdgeAuthor :
    (deleteRef { Defects.none with refRightOnEdgeAuthor := true } rooms01 db2 3 4 1 1 0 0).toBool = true ∧
    peerVerdictOn rooms01 (deleteRef { Defects.none with refRightOnEdgeAuthor := true } rooms01 db2 3 4 1 1 0 0) 1
      (db2.rows.find? (·.id = 1)) = false ∧
    (deleteRef Defects.none rooms01 db2 3 4 1 1 0 0).toBool = false := by decide +kernel

/-- the mutation `Person { id: 1, parents: null }` -/
def nullParents : Mut := .mk 1 false 1 none none (.null 0)

/-- **C12_breaks_refRemovalRightOnRowAuthor (found by the proof of `C12_change_verdict`; fixed in /repo: 9152fd5).** Row 1 belongs to member 3,
    who holds the own-rows right only; the reference 1 → 0 stored there was added by member 2. Member 3 empties the
    field: accepted locally (the right is judged on the row's author) and the peer accepts the row; the peer refuses
    the deletion record of the reference (it is somebody else's: all-rows right) — the reference stays on every peer.
    With the switch off the mutation is refused locally.
    (Replayed on the real code: findings/C12-mutation-removes-foreign-reference.ops.) -/
theorem C12_breaks_refRemovalRightOnRowAuthor :
    (mutate { Defects.none with refRemovalRightOnRowAuthor := true } rooms01 db4 3 4 nullParents).toBool = true ∧
    peerVerdictOn rooms01 (mutate { Defects.none with refRemovalRightOnRowAuthor := true } rooms01 db4 3 4 nullParents) 1
      (db4.rows.find? (·.id = 1)) = true ∧
    Ingest.edgeDelAccepted Ingest.Defects.none (peerHolding rooms01 db4 fun _ => 1)
      (toEdgeDel 1 (tombOf 0 3 4 ⟨1, 0, 0, 2, 3⟩)) = false ∧
    (mutate Defects.none rooms01 db4 3 4 nullParents).toBool = false := by decide +kernel

-- the hypotheses of the record theorems are met by a concrete peer: it holds the rooms, row 1 in room 0 and the
-- reference with its author; member 2 (all-rows right) empties the field: accepted on both sides
example :
    (peerHolding rooms01 db4 fun _ => 1).rooms = rooms01 ∧
    DataEnt Ingest.Defects.none 1 ∧
    Ingest.edgeDelSourceOk (peerHolding rooms01 db4 fun _ => 1) (toEdgeDel 1 (tombOf 0 2 4 ⟨1, 0, 0, 2, 3⟩)) = true ∧
    ((peerHolding rooms01 db4 fun _ => 1).edges.find?
      (Ingest.edgeMatches (toEdgeDel 1 (tombOf 0 2 4 ⟨1, 0, 0, 2, 3⟩)))).map (·.key) = some 2 ∧
    (mutate Defects.none rooms01 db4 2 4 nullParents).toBool = true ∧
    Ingest.edgeDelAccepted Ingest.Defects.none (peerHolding rooms01 db4 fun _ => 1)
      (toEdgeDel 1 (tombOf 0 2 4 ⟨1, 0, 0, 2, 3⟩)) = true := by
  exact ⟨rfl, ⟨by decide +kernel, by decide +kernel⟩, by decide +kernel⟩

-- the rooms of the fixtures hold normalised rights (`Right.new`)
example : ∀ room, getRoom rooms01 0 = some room → Normalised room := by
  intro room h
  have : room = room0 := by
    have h' : getRoom rooms01 0 = some room0 := by decide +kernel
    rw [h'] at h; cases h; rfl
  subst this
  intro a ha x hx
  revert x
  revert a
  decide +kernel

/-- **C12_partial (any switches on both sides, in particular the code as it is).** For a change that does not move the row to another room (and whose
    previous version, if any, is of the same entity and was in a room) and that removes no reference signed by
    somebody else, the local right check and `validate_node` give the same verdict whatever the switches of the two
    models are — in particular for the code as it is on both sides. What is missing with respect to the full
    statement: room moves (#2), sub-entities under an unchanged parent — which #1 lets through without any local
    check —, re-signed source rows of reference deletions (#3), references of other authors removed by a mutation of
    an own row (`C12_breaks_refRemovalRightOnRowAuthor`), all four fixed in /repo; and, outside this model, values
    that only one path refuses (explicit null, Json scalars: DESIGN #14). -/
theorem C12_partial (df : Defects) (d : Ingest.Defects) {rooms : List Room} {caller : Key} {now : Int}
    {c : Change} {n : Row} {rid : Id}
    (hroom : c.roomId = some rid) (hn : n.room = some rid) (he : n.entity = c.entity) (hd : n.mdate = now)
    (hold : ∀ o, c.old = some o → o.entity = c.entity ∧ o.room ≠ none) (hnm : NoMove c)
    (hown : c.edgeDels.any (fun e => e.author != caller) = false) :
    localOk df rooms caller now c = peerOk d rooms caller c n :=
  row_verdict df d (Or.inr hnm) hown hroom hn he hd hold

/-- **C12_partial_delete_node (the code as it is, both sides).** The local verdict on the deletion of a stored row of
    a room equals the verdict of a peer, holding the same room definitions and the same row, on the deletion record
    — for `Defects.asImplemented` on both sides. (With the intended behaviour the local side also asks for the right
    to edit the rows that reference the deleted one: `C12_delete_node_verdict`.) -/
theorem C12_partial_delete_node {p : Ingest.Inst} {rooms : List Room}
    (hp : p.rooms = rooms) {db : Db} {caller : Key} {now : Int} {handle : Nat} {entity : Ent} {row : Row} {rid : Id}
    (hrow : db.getRow handle entity = some row) (hr : row.room = some rid)
    (hent : DataEnt Ingest.Defects.asImplemented entity)
    {l : Ingest.NodeRow} (hheld : Ingest.localRow p.nodes handle = some l) (hlk : l.key = row.author)
    (hle : l.ent = entity) :
    (deleteNode Defects.asImplemented rooms db caller now handle entity).toBool =
      Ingest.nodeDelAccepted Ingest.Defects.asImplemented p (toNodeDel (nodeTombOf rid caller now row)) := by
  -- the code as it is does not look at the references that point to the deleted row
  rw [C12_delete_node_verdict hp hrow hr hent hheld hlk hle,
    show Defects.asImplemented.incomingRefsUnchecked = true from rfl, Bool.true_or, Bool.true_and]

/-- **C12_partial_delete_ref (the code before 301f3d3: the right judged on the reference's author).** The local verdict
    on the deletion of an existing reference equals the peer's verdict on the deletion RECORD, whatever the other
    switches are; what that code did not ask is what `validate_node` asks for the re-signed source row
    (`C12_breaks_refRightOnEdgeAuthor`). -/
theorem C12_partial_delete_ref {df : Defects} (hdf : df.refRightOnEdgeAuthor = true) {d : Ingest.Defects}
    {p : Ingest.Inst} {rooms : List Room} (hp : p.rooms = rooms) {db : Db} {caller : Key} {now : Int}
    {handle : Nat} {entity : Ent} {label dest : Nat} {row : Row} {edge : EdgeRow} {rid : Id}
    (hrow : db.getRow handle entity = some row) (hr : row.room = some rid)
    (hedge : db.edges.find? (fun e => e.src = handle && e.label = label && e.dest = dest) = some edge)
    (hent : DataEnt d entity)
    (hsrc : d.edgeDelSourceUnchecked = true ∨
      Ingest.edgeDelSourceOk p (toEdgeDel entity (tombOf rid caller now edge)) = true)
    (hheld : (p.edges.find? (Ingest.edgeMatches (toEdgeDel entity (tombOf rid caller now edge)))).map (·.key)
      = some edge.author) :
    (deleteRef df rooms db caller now handle entity label dest).toBool =
      Ingest.edgeDelAccepted d p (toEdgeDel entity (tombOf rid caller now edge)) := by
  rw [edge_record_verdict hp hent hsrc hheld, deleteRef_toBool hrow hr hedge, hdf]
  by_cases he : edge.author = caller <;> simp [he]

end Discret.LocalWrite
