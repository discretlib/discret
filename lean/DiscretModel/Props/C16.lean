import DiscretModel.Lemmas.Pipeline
/-
C16 — Concurrent mutations of one row do not lose acknowledged changes.

Model: `Model/Pipeline.lean` (read on the reader pool — validate/sign in the authorisation actor — write
in the batch writer; the new row is the WHOLE old row as read, with the assigned fields overwritten).

The full statement — every interleaving of the phases of mutations of one row gives the result of
running the acknowledged mutations one after another in some order — is FALSE of the code
(DESIGN §4 site 23): `C16_breaks_lostUpdate`, `C16_breaks_lostRoomMove`,
`C16_breaks_duplicatedSingleReference`, `C16_breaks_staleReferenceRemoval`. What holds, for any number of mutations and any schedule:
a schedule in which no write happens while another mutation of the same row is pending (i.e. every read
follows the previous write of the same row) gives exactly the serial result in the order of the writes
(`C16_serial_when_reads_follow_writes`, = `C16_partial`); mutations of different rows never interfere and
commute; and for two writes of different fields the non-serialisable schedules are exactly those in which
both reads precede both writes.
-/
namespace Discret.Pipeline

/-- **C16_partial (read-after-write schedules are serial).** For any list of mutations and ANY run of the
    pipeline (any interleaving of the read / validate / write events accepted by the FIFO stages): if no
    write happened while another mutation of the same row was pending — every read of a row follows the
    previous write of that row — the final database is exactly the result of applying the mutations one
    after another, whole, in the order of their writes. The guard `overlap = false` is decidable on the
    schedule and is what excludes the witnesses below. -/
theorem C16_serial_when_reads_follow_writes (ops : List Op) (db0 : Db) (s : List Ev)
    (he : (exec ops db0 s).err = false) (ho : (exec ops db0 s).overlap = false) :
    (exec ops db0 s).db = serial ops db0 (exec ops db0 s).done.reverse :=
  (exec_inv ops db0 s (start db0) (start_inv ops db0) ho).1

/-- alias required by the conventions of the rig -/
theorem C16_partial (ops : List Op) (db0 : Db) (s : List Ev)
    (he : (exec ops db0 s).err = false) (ho : (exec ops db0 s).overlap = false) :
    (exec ops db0 s).db = serial ops db0 (exec ops db0 s).done.reverse :=
  C16_serial_when_reads_follow_writes ops db0 s he ho

/-- **C16 (different rows).** Mutations of pairwise different rows: EVERY run of the pipeline, whatever the
    interleaving, gives the serial result in the order of the writes. -/
theorem C16_distinct_rows_serial (ops : List Op) (db0 : Db) (s : List Ev) (hd : Distinct ops)
    (he : (exec ops db0 s).err = false) :
    (exec ops db0 s).db = serial ops db0 (exec ops db0 s).done.reverse :=
  C16_serial_when_reads_follow_writes ops db0 s he
    (exec_noOverlap ops db0 s (start db0) hd (start_inv ops db0) rfl)

/-- **C16 (different rows commute).** and that serial result does not depend on the order: two mutations
    of different rows commute, whatever their dates. -/
theorem C16_distinct_rows_commute (db : Db) (a b : Op) (da db' : Nat) (h : a.key ≠ b.key) :
    apply (apply db a da) b db' = apply (apply db b db') a da :=
  apply_comm db a b da db' h

/-- in the model, validation is a function of the pending mutation alone (`validate_mutation` takes no database
    connection) and is the identity on it: a write of the validated mutation is a write of the mutation as read.
    This says nothing about schedules; that a `v` event changes only the queue is read off `step`. -/
theorem C16_validate_independent (db db' : Db) (p : Pending) :
    commit db (validate p) = commit db p ∧ validate p = p ∧ (∀ q : Pending, validate q = q → commit db' (validate q) = commit db' q) :=
  ⟨rfl, rfl, fun _ _ => rfl⟩

/-- what is compared: the row and its references -/
abbrev View := Option (Nat × List (Nat × Nat)) × List (Nat × Nat)

def view (db : Db) (k : Key) : View :=
  ((db.rows k).map fun r => (r.room, r.vals), db.refs k)

def bothReadsThenWrites : List Ev := [.r 0, .r 1, .v 0, .v 1, .w 0, .w 1]

/-- mutation 0 assigns field 1 := 5, mutation 1 assigns field 2 := 7, both on row 1 -/
def opsTwoFields : List Op :=
  [{ key := 1, sets := [(1, 5)], room := none, adds := [], pet := none },
   { key := 1, sets := [(2, 7)], room := none, adds := [], pet := none }]

/-- **C16_breaks_lostUpdate** (site 23). `R₀ R₁ W₀ W₁`: both mutations read the stored row, both are
    validated and written; mutation 1 writes back the whole row it read, so the acknowledged assignment
    of field 1 is lost — the final row is the result of NO serial order (both give `1=5, 2=7`). -/
theorem C16_breaks_lostUpdate :
    (exec opsTwoFields init bothReadsThenWrites).err = false ∧
    (exec opsTwoFields init bothReadsThenWrites).done.length = 2 ∧
    view (exec opsTwoFields init bothReadsThenWrites).db 1 = ((some (1, [(1, 0), (2, 7)]), []) : View) ∧
    view (serial opsTwoFields init [(0, 1), (1, 2)]) 1 = ((some (1, [(1, 5), (2, 7)]), []) : View) ∧
    view (serial opsTwoFields init [(1, 2), (0, 1)]) 1 = ((some (1, [(1, 5), (2, 7)]), []) : View) :=
  ⟨by decide +kernel, by decide +kernel, by decide +kernel, by decide +kernel, by decide +kernel⟩

/-- mutation 0 moves row 1 to room 2 (and assigns field 1), mutation 1 assigns field 2 -/
def opsRoomMove : List Op :=
  [{ key := 1, sets := [(1, 5)], room := some 2, adds := [], pet := none },
   { key := 1, sets := [(2, 7)], room := none, adds := [], pet := none }]

/-- **C16_breaks_lostRoomMove.** The same window undoes an acknowledged room move: the row is back in
    room 1 although every serial order leaves it in room 2. -/
theorem C16_breaks_lostRoomMove :
    (exec opsRoomMove init bothReadsThenWrites).err = false ∧
    view (exec opsRoomMove init bothReadsThenWrites).db 1 = ((some (1, [(1, 0), (2, 7)]), []) : View) ∧
    view (serial opsRoomMove init [(0, 1), (1, 2)]) 1 = ((some (2, [(1, 5), (2, 7)]), []) : View) ∧
    view (serial opsRoomMove init [(1, 2), (0, 1)]) 1 = ((some (2, [(1, 5), (2, 7)]), []) : View) :=
  ⟨by decide +kernel, by decide +kernel, by decide +kernel, by decide +kernel⟩

/-- mutations 0 and 1 both set the single-valued reference (label 2) of row 1, to rows 2 and 3 -/
def opsTwoPets : List Op :=
  [{ key := 1, sets := [], room := none, adds := [], pet := some (some 2) },
   { key := 1, sets := [], room := none, adds := [], pet := some (some 3) }]

/-- **C16_breaks_duplicatedSingleReference.** Both mutations read "no reference yet", so neither plans a
    deletion: the single-valued field ends with TWO references — a mixed state that no serial order
    produces (each leaves exactly one). -/
theorem C16_breaks_duplicatedSingleReference :
    (exec opsTwoPets init bothReadsThenWrites).err = false ∧
    (view (exec opsTwoPets init bothReadsThenWrites).db 1).2 = [(2, 2), (2, 3)] ∧
    (view (serial opsTwoPets init [(0, 1), (1, 2)]) 1).2 = [(2, 3)] ∧
    (view (serial opsTwoPets init [(1, 2), (0, 1)]) 1).2 = [(2, 2)] := by decide +kernel

/-- mutation 0 sets the single-valued reference and field 1 := 9, mutation 1 removes the reference
    (`pet: null`) and sets field 1 := 6 -/
def opsPetNull : List Op :=
  [{ key := 1, sets := [(1, 9)], room := none, adds := [], pet := some (some 4) },
   { key := 1, sets := [(1, 6)], room := none, adds := [], pet := some none }]

/-- **C16_breaks_staleReferenceRemoval.** `R₁ R₀ W₀ W₁`: the removal was planned when there was nothing
    to remove and is written after the other mutation has set the reference: the final row has the field
    value of mutation 1 (which came last) together with the reference of mutation 0 — a mixed state:
    the order 0;1 leaves no reference, the order 1;0 leaves field 1 = 9. -/
theorem C16_breaks_staleReferenceRemoval :
    (exec opsPetNull init [.r 1, .r 0, .v 0, .w 0, .v 1, .w 1]).err = false ∧
    view (exec opsPetNull init [.r 1, .r 0, .v 0, .w 0, .v 1, .w 1]).db 1 = ((some (1, [(1, 6), (2, 0)]), [(2, 4)]) : View) ∧
    view (serial opsPetNull init [(0, 1), (1, 2)]) 1 = ((some (1, [(1, 6), (2, 0)]), []) : View) ∧
    view (serial opsPetNull init [(1, 1), (0, 2)]) 1 = ((some (1, [(1, 9), (2, 0)]), [(2, 4)]) : View) :=
  ⟨by decide +kernel, by decide +kernel, by decide +kernel, by decide +kernel⟩

/-- the four read/write events of two mutations: 0 = R₀, 1 = W₀, 2 = R₁, 3 = W₁; a write is preceded by
    its validation (a `v` event changes only the queue of `step`, and `validate` is the identity,
    `C16_validate_independent`) -/
def expand : List (Fin 4) → List Ev
  | [] => []
  | e :: es =>
    (match e.val with
     | 0 => [Ev.r 0]
     | 1 => [Ev.v 0, Ev.w 0]
     | 2 => [Ev.r 1]
     | _ => [Ev.v 1, Ev.w 1]) ++ expand es

def before (s : List (Fin 4)) (a b : Fin 4) : Bool := s.idxOf a < s.idxOf b

def validRW (s : List (Fin 4)) : Bool := s.length = 4 && s.Nodup && before s 0 1 && before s 2 3

def bothReadsFirst (s : List (Fin 4)) : Bool := before s 0 3 && before s 2 1

def serialOutcomes : List View :=
  [view (serial opsTwoFields init [(0, 1), (1, 2)]) 1, view (serial opsTwoFields init [(1, 1), (0, 2)]) 1]

def accepted (s : List (Fin 4)) : Bool := !(exec opsTwoFields init (expand s)).err

def serialisable (s : List (Fin 4)) : Bool :=
  serialOutcomes.contains (view (exec opsTwoFields init (expand s)).db 1)

/-- **C16 (exact set).** For the two mutations of different fields of one row, over ALL schedules of the
    four events: the run is accepted by the pipeline, and its final row is a serial outcome if and only
    if the two reads do not both precede the two writes. -/
theorem C16_two_field_writes_exact :
    ∀ a b c d : Fin 4, validRW [a, b, c, d] = true →
      accepted [a, b, c, d] = true ∧ serialisable [a, b, c, d] = !bothReadsFirst [a, b, c, d] := by decide +kernel

-- there are 6 schedules of the four events, 4 of them with both reads first
example : ((List.finRange 4).flatMap fun a => (List.finRange 4).flatMap fun b => (List.finRange 4).flatMap fun c =>
    (List.finRange 4).filterMap fun d => if validRW [a, b, c, d] then some (bothReadsFirst [a, b, c, d]) else none)
    = [false, true, true, true, true, false] := by decide +kernel

-- a run with three mutations of two rows in which reads follow writes: the guard of C16_partial holds
def opsThree : List Op := opsTwoFields ++ [{ key := 2, sets := [(1, 9)], room := none, adds := [1], pet := none }]
def schedThree : List Ev := [.r 0, .r 2, .v 0, .w 0, .r 1, .v 2, .v 1, .w 2, .w 1]
example : (exec opsThree init schedThree).err = false ∧ (exec opsThree init schedThree).overlap = false ∧
    (exec opsThree init schedThree).done.length = 3 ∧
    view (exec opsThree init schedThree).db 1 = ((some (1, [(1, 5), (2, 7)]), []) : View) ∧
    view (exec opsThree init schedThree).db 2 = ((some (1, [(1, 9), (2, 0)]), [(1, 1)]) : View) :=
  ⟨by decide +kernel, by decide +kernel, by decide +kernel, by decide +kernel, by decide +kernel⟩

-- the guard fails on the lost-update schedule
example : (exec opsTwoFields init bothReadsThenWrites).overlap = true := by decide +kernel

end Discret.Pipeline
