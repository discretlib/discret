import DiscretModel.Lemmas.EventsApi
/-
C18 — Every committed change is announced.

Model: `Model/Events.lean`. Writer level: marks, passes, emitted events, for ANY batching of ANY sequence
of changes and recompute requests (no bound on rooms, entities, days, batch sizes or lengths).
API level: what every entry point writes and marks, for any operation sequence over any number of sites.
A cell is `(room, entity, day)`.
-/
namespace Discret.Events

/-- **C18 (a pass reports exactly the entries it found marked, and unmarks them).** -/
theorem C18_pass_reports_exactly_the_marked (k : Ent → Bool) (w : W) :
    (commit k w [.pass]).events = w.events ++ [w.marks.filter fun c => k c.ent] ∧
    (commit k w [.pass]).marks = [] := by
  simp [commit, runItems, passW]

/-- **C18 (after a pass no mark remains).** Whatever precedes it in its batch, the database holds no
    mark right after a pass item (the marks of the batch's own changes are written at the end of the batch). -/
theorem C18_after_a_pass_no_mark_remains (k : Ent → Bool) (pre : List Item) :
    ∀ (w : W) (p : List Cell), (runItems k w p (pre ++ [.pass])).1.marks = [] := by
  intro w p
  rcases (runItems_cases k (pre ++ [.pass]) w p).2 with ⟨h, _⟩ | ⟨_, n, e⟩
  · exact absurd (List.mem_append_right _ List.mem_cons_self) h
  · rw [e]

/-- **C18 (invariant, any sequence and any batching).** Take any history of batches, any batch `b` of
    it and any change in `b`. Every cell that change marks (whose entity name resolves) is, after any
    continuation `post`, either still marked or in an event emitted AFTER the batch of the change. -/
theorem C18_invariant (k : Ent → Bool) (w0 : W) (pre : List (List Item)) (b : List Item)
    (post : List (List Item)) (m : List Cell) (c : Cell)
    (hw : Item.write m ∈ b) (hc : c ∈ m) (hk : k c.ent = true) :
    ∃ late, (run k w0 (pre ++ b :: post)).events = (run k w0 (pre ++ [b])).events ++ late ∧
      (c ∈ (run k w0 (pre ++ b :: post)).marks ∨ ∃ e ∈ late, c ∈ e) := by
  obtain ⟨l, h1, h2, _⟩ := run_after_change k w0 pre b post m c hw hc hk
  exact ⟨l, h1, h2⟩

/-- **C18 (a recompute requested after the acknowledgement announces the change).** If some later batch
    contains a recompute item — which is what the API guarantees by sending the request after the
    acknowledgement, hence after the commit of the change's batch — the cell is in an event emitted
    after the change and no later than that pass. -/
theorem C18_change_followed_by_event (k : Ent → Bool) (w0 : W) (pre : List (List Item)) (b : List Item)
    (post : List (List Item)) (m : List Cell) (c : Cell)
    (hw : Item.write m ∈ b) (hc : c ∈ m) (hk : k c.ent = true)
    (hreq : ∃ b' ∈ post, Item.pass ∈ b') :
    ∃ late, (run k w0 (pre ++ b :: post)).events = (run k w0 (pre ++ [b])).events ++ late ∧
      ∃ e ∈ late, c ∈ e := by
  obtain ⟨l, h1, _, h3⟩ := run_after_change k w0 pre b post m c hw hc hk
  exact ⟨l, h1, h3 hreq⟩

/-- **C18 (batched together or concurrent: nothing is lost, nothing is invented).** From a database
    without marks, for EVERY schedule in which each change's batch is followed by a later batch with a
    recompute item, the set of announced cells is exactly the set of cells marked by the changes. In
    particular it does not depend on how the changes and requests were batched or interleaved. -/
theorem C18_any_schedule_announces_exactly_the_marked (k : Ent → Bool) (evs0 : List (List Cell))
    (bs : List (List Item)) (h : Requested bs) :
    ∃ late, (run k { marks := [], events := evs0 } bs).events = evs0 ++ late ∧
      ∀ c, (∃ e ∈ late, c ∈ e) ↔ (k c.ent = true ∧ ∃ b ∈ bs, ∃ m, Item.write m ∈ b ∧ c ∈ m) := by
  obtain ⟨late, h1, _, _, h4⟩ := run_spec k bs { marks := [], events := evs0 }
  refine ⟨late, h1, ?_⟩
  intro c
  constructor
  · rintro ⟨e, he, hce⟩
    obtain ⟨hk, h' | h'⟩ := h4 e he c hce
    · cases h'
    · exact ⟨hk, h'⟩
  · rintro ⟨hk, b, hb, m, hm, hcm⟩
    obtain ⟨pre, post, rfl⟩ := List.append_of_mem hb
    obtain ⟨l2, e2, e, he, hce⟩ :=
      C18_change_followed_by_event k { marks := [], events := evs0 } pre b post m c hm hcm hk (h.at m hm)
    obtain ⟨l1, e1, _⟩ := run_spec k (pre ++ [b]) { marks := [], events := evs0 }
    rw [h1, e1, List.append_assoc] at e2
    have : late = l1 ++ l2 := List.append_cancel_left e2
    exact ⟨e, by rw [this]; exact List.mem_append.mpr (Or.inr he), hce⟩

/-- **C18 (every change is followed by its event) — full statement, intended behaviour.**
    With `Defects.none`, in ANY state, for EVERY operation (local mutation, deletion, reference change,
    stream, room mutation, ingestion of a room from another site, concurrent mix): every cell whose
    stored content gains a row version or a tombstone is in a data-changed event that the operation
    itself triggers (and, for a stream, that comes after its mutations reached the writer). -/
theorem C18_every_change_is_announced (st : State) (hd : st.d = Defects.none) (op : Op)
    (st' : State) (evs : List Ev) (g : List Cell) (h : step st op = (st', .obs evs g)) :
    ∀ c, c ∈ g → Announced evs c :=
  step_announces (Or.inl (by rw [hd]; exact ⟨rfl, rfl⟩)) h

/-- the same along every run from the initial state, for any number of sites -/
theorem C18_every_change_is_announced_run (n : Nat) (ops : List Op) :
    ∀ out, out ∈ (runOps (init Defects.none n) ops).2 → ∀ evs g, out = .obs evs g →
      ∀ c, c ∈ g → Announced evs c := by
  intro out h evs g ho
  obtain ⟨st1, op, hd, rfl⟩ := runOps_out ops _ out h
  exact C18_every_change_is_announced st1 hd op (step st1 op).1 evs g (Prod.ext rfl ho)

/-- **C18_partial — the code before the fixes (and any combination of the switches).** Same conclusion
    under the decidable guard `opGuard`: the operation is neither a reference deletion naming a reference that
    does not exist at the site, nor a stream closed before its acknowledgements. Stated for
    `Defects.beforeFixes`; the proof does not use the hypothesis (it holds whatever the switches are).
    `/repo` has both fixes (456214b + 9b21e0a, e303771): `Defects.asImplemented = Defects.none`
    and the full statement `C18_every_change_is_announced` applies to the code's model. -/
theorem C18_partial (st : State) (_hd : st.d = Defects.beforeFixes) (op : Op) (hg : opGuard st op = true)
    (st' : State) (evs : List Ev) (g : List Cell) (h : step st op = (st', .obs evs g)) :
    ∀ c, c ∈ g → Announced evs c :=
  step_announces (Or.inr hg) h

/-- **C18 (a room-definition change is followed by a room-modified event carrying the validated room).**
    An accepted room mutation (here: one more user entry in room `r` at its owning site) produces a
    room-modified event; the definition it carries is the one validation computed from the installed
    definition (`old` with one more entry, dated now), and it is the definition installed afterwards. -/
theorem C18_room_change_announced_with_the_validated_room (st : State) (s : Nat) (r : Room)
    (st' : State) (evs : List Ev) (g : List Cell) (h : step st (.roomadd s r) = (st', .obs evs g)) :
    ∃ site old, st.sites[s]? = some site ∧ findDef r site.defs = some old ∧
      let validated : RoomDef := { room := r, entries := old.entries + 1, dtick := st.tick }
      Ev.roomEv validated ∈ evs ∧
      (st'.sites[s]?.bind fun x => findDef r x.defs) = some validated := by
  obtain ⟨si, s1, acts, hp, rfl, rfl, hsites⟩ := step_obs h
  unfold plan at hp
  dsimp only [siteOf] at hp
  split at hp
  · cases hp
  rename_i site hs
  dsimp only [localOp] at hp
  split at hp
  · rename_i old hf
    split at hp
    · cases hp
      refine ⟨site, old, hs, hf, (mem_execActs_roomEv _ _ _).mpr List.mem_cons_self, ?_⟩
      rw [hsites, getElem?_setSite s _ _ site hs]
      simp only [Option.bind_some, execActs_defs]
      exact findDef_setDef { room := r, entries := old.entries + 1, dtick := st.tick } site.defs
    · cases hp
  · cases hp

/-- the same for a room definition imported from another site: the event carries the imported
    definition, which is the one installed -/
theorem C18_imported_room_announced (dst : Site) (r : Room) (rd : RoomDef) (hr : rd.room = r)
    (hl : pullLoads dst r rd = true) :
    Act.roomEv rd ∈ (pullStart dst r rd).acts ∧ findDef r (pullStart dst r rd).dst.defs = some rd := by
  unfold pullStart
  simp only [hl, ↓reduceIte, List.mem_singleton, true_and]
  subst hr
  exact findDef_setDef rd dst.defs

/-- the code's model is the intended one since the fixes -/
theorem C18_asImplemented_is_none : Defects.asImplemented = Defects.none := rfl

/-! ### where the code broke the full statement before the fixes (regression witnesses) -/

def c (r e d : Nat) : Cell := { room := r, ent := e, day := d }

/-- **C18_breaks_refdelUnmarked** (`deletion.rs:91-93`, DESIGN §4 site 3). A reference deletion naming a
    reference that does not exist re-dates and re-signs the source row (the content of (room 1, Person,
    day 1) gains a row version) and marks nothing: the event triggered by the operation is empty, and a
    further recompute finds nothing to report — the change is never announced. -/
theorem C18_breaks_refdelUnmarked :
    (runOps (init Defects.beforeFixes 1)
      [.room 0 1, .new 0 1 1 0, .new 0 2 1 0, .day 1, .refdel 0 1 2, .flush 0]).2.drop 4
      = [.obs [.data []] [c 1 0 1], .obs [.data []] []] := by decide +kernel

/-- with the switch off (the code since 456214b) the same history leaves the row untouched: nothing to announce -/
theorem C18_fixed_refdelUnmarked :
    (runOps (init Defects.none 1)
      [.room 0 1, .new 0 1 1 0, .new 0 2 1 0, .day 1, .refdel 0 1 2, .flush 0]).2.drop 4
      = [.obs [.data []] [], .obs [.data []] []] := by decide +kernel

/-- **C18_breaks_streamCloseEarly** (`graph_database.rs:331-339`, before e303771). The recompute of a stream is
    requested when the stream is closed; the mutations still travel through the reader thread and the
    authorisation service, so the pass runs first, reports nothing, and the marks of the stream stay
    until some later operation requests a recompute (here: the flush). -/
theorem C18_breaks_streamCloseEarly :
    (runOps (init Defects.beforeFixes 1)
      [.room 0 1, .stream 0 .early [(1, 1, 0), (2, 1, 1)], .flush 0]).2.drop 1
      = [.obs [.data [], .mark] [c 1 0 0, c 1 1 0], .obs [.data [c 1 0 0, c 1 1 0]] []] := by decide +kernel

theorem C18_fixed_streamCloseEarly :
    (runOps (init Defects.none 1)
      [.room 0 1, .stream 0 .early [(1, 1, 0), (2, 1, 1)], .flush 0]).2.drop 1
      = [.obs [.mark, .data [c 1 0 0, c 1 1 0]] [c 1 0 0, c 1 1 0], .obs [.data []] []] := by decide +kernel

/-- **C18_breaks_unknownEntityDropped** (`graph_database.rs:226-230`). A marked entry whose entity short
    name does not resolve is left out of the event although its mark is cleared: neither marked nor
    announced. (Not reachable through the entry points exercised by the harness: every ingestion path
    refuses unknown short names and a data model cannot drop an entity; kept because the branch exists.) -/
theorem C18_breaks_unknownEntityDropped :
    let w := run (fun e => e != 7) { marks := [], events := [] } [[.write [c 1 7 0]], [.pass]]
    w.marks = [] ∧ w.events = [[]] := by decide +kernel

-- a concurrent schedule meeting `Requested`: two changes batched together with the request of an
-- earlier change, their own requests in later batches
example : Requested [[.write [c 1 0 0]], [.write [c 1 0 1], .pass, .write [c 2 1 1]], [.pass], [.pass]] := by
  refine ⟨fun _ => ⟨_, List.mem_cons_self, List.mem_cons_of_mem _ List.mem_cons_self⟩, ?_, ?_, ?_, trivial⟩
  · exact fun _ => ⟨[.pass], List.mem_cons_self, List.mem_cons_self⟩
  · exact fun _ => ⟨[.pass], List.mem_cons_self, List.mem_cons_self⟩
  · rintro ⟨m, hm⟩; cases hm; rename_i h; cases h

-- … and what it announces: the pass batched with the two later changes does not see their marks
example : (run allKnown { marks := [], events := [] }
      [[.write [c 1 0 0]], [.write [c 1 0 1], .pass, .write [c 2 1 1]], [.pass], [.pass]]).events
    = [[c 1 0 0], [c 1 0 1, c 2 1 1], []] := by decide +kernel

-- a two-site history: site 1 imports room 1, site 0 creates, moves day, deletes; site 1 ingests the
-- tombstone and announces the deletion day, the day of the deleted version and the day of the version it held
-- (marks are a set in the database; the model keeps duplicates)
example : (runOps (init Defects.asImplemented 2)
      [.room 0 1, .pull 1 0 1, .new 0 1 1 0, .pull 1 0 1, .day 2, .del 0 1, .pull 1 0 1]).2.drop 6
    = [.obs [.data [c 1 0 2, c 1 0 0, c 1 0 0]] [c 1 0 2]] := by decide +kernel

-- the guard of `C18_partial` holds for a reference deletion of an existing reference (reachable state)
example : opGuard (runOps (init Defects.asImplemented 1)
      [.room 0 1, .new 0 1 1 0, .new 0 2 1 0, .ref 0 1 2]).1 (.refdel 0 1 2) = true := by decide +kernel

-- an accepted room-definition change in a reachable state
example : (step (runOps (init Defects.asImplemented 1) [.room 0 1]).1 (.roomadd 0 1)).2
    = .obs [.roomEv { room := 1, entries := 1, dtick := 1 }, .data []] [] := by decide +kernel

end Discret.Events
