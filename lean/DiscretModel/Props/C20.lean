import DiscretModel.Lemmas.LockFair
import DiscretModel.Model.LockOld
import DiscretModel.Lemmas.LockConn
/-
C20 — Room synchronisation locks: exclusive, bounded, never lost.

Model: `Model/Lock.lean` (the `RoomLockService` actor, literal), `Model/LockConn.lean` (the
connection side). All statements quantify over every operation sequence, every number of peers
and rooms, every limit — no bound.
-/
namespace Discret.Lock

theorem run_inv {max : Nat} {s : State} (hi : Inv max s) (ops : List Op) : Inv max (run s ops).1 :=
  run_fst s ops ▸ foldl_invariant (Inv max) hi fun _ op _ h => step_inv h op

/-- `NoMissed` holds between operations only, `Inv` also inside them: the first is carried along with the second. -/
theorem run_noMissed {max : Nat} {s : State} (hi : Inv max s) (hn : NoMissed s) (ops : List Op) :
    NoMissed (run s ops).1 :=
  run_fst s ops ▸ (foldl_invariant (fun s => Inv max s ∧ NoMissed s) ⟨hi, hn⟩
    fun _ op _ h => ⟨step_inv h.1 op, step_noMissed h.1 h.2 op⟩).2

/-- **C20 (bounded, bookkeeping).** In every reachable state the locked rooms are pairwise
    distinct, `locked + available = max` (so at most `max` rooms are locked and the counter never
    underflows), the pending map has one entry per queued peer and the queue has no duplicates. -/
theorem C20_invariants (max : Nat) (ops : List Op) :
    let s := (run (init max) ops).1
    s.locked.Nodup ∧ s.locked.length + s.avail = max ∧ s.locked.length ≤ max ∧
      s.queue.Nodup ∧ (keys s.reqs).Nodup ∧ ∀ p, p ∈ s.queue ↔ p ∈ keys s.reqs := by
  have h := run_inv (inv_init max) ops
  exact ⟨h.lockedNodup, h.count, Nat.le_trans (Nat.le_add_right _ _) (Nat.le_of_eq h.count),
    h.queueNodup, h.keysNodup, h.queueKeys⟩

def grantedAt (outs : List (List (Ch × Room))) (i : Nat) (r : Room) : Prop :=
  ∃ g, outs[i]? = some g ∧ ∃ ch, (ch, r) ∈ g

theorem run_outs_cons (s : State) (op : Op) (ops : List Op) :
    (run s (op :: ops)).2 = (step s op).2 :: (run (step s op).1 ops).2 := rfl

theorem grantedAt_zero {s : State} {op : Op} {ops : List Op} {r : Room} :
    grantedAt (run s (op :: ops)).2 0 r ↔ ∃ ch, (ch, r) ∈ (step s op).2 :=
  ⟨fun ⟨_, hg, h⟩ => Option.some.inj hg ▸ h, fun h => ⟨_, rfl, h⟩⟩

theorem grantedAt_succ {s : State} {op : Op} {ops : List Op} {j : Nat} {r : Room} :
    grantedAt (run s (op :: ops)).2 (j + 1) r ↔ grantedAt (run (step s op).1 ops).2 j r :=
  Iff.rfl

theorem run_held {max : Nat} {s : State} (hi : Inv max s) {r : Room} (hr : r ∈ s.locked)
    (ops : List Op) (j : Nat) (hg : grantedAt (run s ops).2 j r) :
    ∃ k, k ≤ j ∧ ops[k]? = some (.unlock r) := by
  induction ops generalizing s j with
  | nil => obtain ⟨g, hg, _⟩ := hg; cases hg
  | cons op ops ih =>
    by_cases hop : op = .unlock r
    · exact ⟨0, Nat.zero_le _, hop ▸ rfl⟩
    · cases j with
      | zero =>
        obtain ⟨ch, hm⟩ := grantedAt_zero.mp hg
        exact ((step_grants hi op).2 _ hm).1.elim (absurd hr) (absurd · hop)
      | succ j =>
        obtain ⟨k, hk, hu⟩ :=
          ih (step_inv hi op) (step_locked_stays hi op hr hop) j (grantedAt_succ.mp hg)
        exact ⟨k + 1, Nat.succ_le_succ hk, hu⟩

theorem grants_separated {max : Nat} {s : State} (hi : Inv max s) (ops : List Op) {i j : Nat}
    {r : Room} (hij : i < j) (hgi : grantedAt (run s ops).2 i r) (hgj : grantedAt (run s ops).2 j r) :
    ∃ k, i < k ∧ k ≤ j ∧ ops[k]? = some (.unlock r) := by
  induction ops generalizing s i j with
  | nil => obtain ⟨g, hg, _⟩ := hgi; cases hg
  | cons op ops ih =>
    cases j with
    | zero => exact absurd hij (Nat.not_lt_zero _)
    | succ j =>
      cases i with
      | zero =>
        -- the room is locked after the first grant
        obtain ⟨ch, hm⟩ := grantedAt_zero.mp hgi
        obtain ⟨k, hk, hu⟩ :=
          run_held (step_inv hi op) ((step_grants hi op).2 _ hm).2.1 ops j (grantedAt_succ.mp hgj)
        exact ⟨k + 1, Nat.succ_pos k, Nat.succ_le_succ hk, hu⟩
      | succ i =>
        obtain ⟨k, hk1, hk2, hu⟩ := ih (step_inv hi op) (Nat.lt_of_succ_lt_succ hij)
          (grantedAt_succ.mp hgi) (grantedAt_succ.mp hgj)
        exact ⟨k + 1, Nat.succ_lt_succ hk1, Nat.succ_le_succ hk2, hu⟩

/-- **C20 (exclusive).** Between two grants of the same room there is an `Unlock` of that room:
    the service never hands a room to a second requester while the first grant is outstanding.
    Unconditional, for every sequence. -/
theorem C20_grant_separated (max : Nat) (ops : List Op) (i j : Nat) (r : Room) (hij : i < j)
    (hgi : grantedAt (run (init max) ops).2 i r) (hgj : grantedAt (run (init max) ops).2 j r) :
    ∃ k, i < k ∧ k ≤ j ∧ ops[k]? = some (.unlock r) :=
  grants_separated (inv_init max) ops hij hgi hgj

/-- **C20 (exclusive, within one step).** The grants of one step are for pairwise distinct rooms. -/
theorem C20_one_grant_per_room_per_step (max : Nat) (ops : List Op) (op : Op) :
    ((step (run (init max) ops).1 op).2.map Prod.snd).Nodup :=
  (step_grants (run_inv (inv_init max) ops) op).1

/-- **C20 (never lost: no missed wake-up).** In every reachable state, if a slot is available then
    every pending room of every waiting peer is currently locked: nobody waits for a free room
    while capacity is spare. -/
theorem C20_no_missed_wakeup (max : Nat) (ops : List Op) :
    let s := (run (init max) ops).1
    0 < s.avail → ∀ p req, (p, req) ∈ s.reqs → ∀ r ∈ req.rooms, r ∈ s.locked := by
  intro s hpos
  have h := run_noMissed (inv_init max) (Or.inr (by intro p req hm; cases hm)) ops
  rcases h with h | h
  · exact absurd h (Nat.pos_iff_ne_zero.mp hpos)
  · exact h

/-- **C20 (never lost: progress).** Releasing a room that a peer with a live receiver is waiting
    for produces a grant in the very same step. -/
theorem C20_unlock_progress (max : Nat) (ops : List Op) (r : Room) (p : Peer) (req : Req) :
    let s := (run (init max) ops).1
    r ∈ s.locked → (p, req) ∈ s.reqs → req.ch ∉ s.dead → r ∈ req.rooms →
    (step s (.unlock r)).2 ≠ [] := by
  intro s hr hm hl hw
  exact unlock_progress (run_inv (inv_init max) ops) hr hm hl hw

/-- **C20 (grants go to live receivers, for rooms that are free).** -/
theorem C20_grant_sound (max : Nat) (ops : List Op) (op : Op) :
    let s := (run (init max) ops).1
    ∀ g ∈ (step s op).2, (g.2 ∉ s.locked ∨ op = .unlock g.2) ∧ g.2 ∈ (step s op).1.locked ∧ g.1 ∉ s.dead :=
  (step_grants (run_inv (inv_init max) ops) op).2

/-- **C20 (once per request, dropped only when the receiver is gone).** One turn of a peer: what
    was pending is, as a multiset, the grant plus what remains — unless the receiver is gone. -/
theorem C20_pending_accounting (locked : List Room) (live : Bool) (rooms rooms' : List Room)
    (g : Option Room) (h : roomLoop locked live rooms.length rooms = (rooms', g)) :
    rooms.Perm (g.toList ++ rooms') ∨ live = false := by
  cases live with
  | false => exact Or.inr rfl
  | true => exact Or.inl (roomLoop_live_perm h)

/-- **C20 (head of line, the part of "eventually granted" that holds).** The peer at the back of
    the queue whose receiver is live and which has a free pending room is granted a room by the next
    acquisition round. -/
theorem C20_head_of_line_partial (s : State) (p : Peer) (q : List Peer) (req : Req)
    (hq : s.queue = p :: q) (hl : lookup p s.reqs = some req) (hlive : req.ch ∉ s.dead)
    (hfree : ∃ r ∈ req.rooms, r ∉ s.locked) :
    ∃ s' r, acquire s = (s', some (req.ch, r)) := by
  unfold acquire
  rw [hq]
  simp only [scan, hl]
  obtain ⟨rooms', r', hrl⟩ := roomLoop_live_some hfree
  have hlv : (!s.dead.contains req.ch) = true := live_iff.mpr hlive
  simp only [hlv, hrl]
  exact ⟨_, _, rfl⟩

/-! ### fairness of the queue (code as fixed): bounded bypass, hence no starvation

`rank q p` is the number of peers visited before `p`. A waiting peer never loses its place, and
it gains one every time a released room it wants (live receiver) goes to somebody else: it can be
overtaken at most `rank` times — fewer than there are peers in the queue — before it is at the
back of the queue, where `C20_head_of_line_partial` serves it first. -/

/-- **C20 (a waiting peer keeps its place).** -/
theorem C20_waiting_peer_keeps_its_place (max : Nat) (ops : List Op) (op : Op) (p : Peer) (req : Req) :
    let s := (run (init max) ops).1
    (p, req) ∈ s.reqs → p ∈ (step s op).1.queue → (∀ g ∈ (step s op).2, g.1 ≠ req.ch) →
    (∀ rooms ch, op ≠ .request p rooms ch) →
    rank (step s op).1.queue p ≤ rank s.queue p := by
  intro s hm hq hnot hop
  exact step_rank_le (run_inv (inv_init max) ops) op hm hq hnot hop

/-- **C20 (being overtaken costs the others a place).** -/
theorem C20_bypass_gains_a_place (max : Nat) (ops : List Op) (r0 : Room) (p : Peer) (req : Req)
    (ch : Ch) (r : Room) :
    let s := (run (init max) ops).1
    r0 ∈ s.locked → (p, req) ∈ s.reqs → p ∈ (step s (.unlock r0)).1.queue →
    (ch, r) ∈ (step s (.unlock r0)).2 → req.ch ≠ ch → req.ch ∉ s.dead → r ∈ req.rooms →
    rank (step s (.unlock r0)).1.queue p < rank s.queue p := by
  intro s hr0 hm hq hg hch hlive hw
  exact unlock_bypass_rank_lt (run_inv (inv_init max) ops) hr0 hm hq hg hch hlive hw

/-- peer `p` waits on channel `c` throughout `ops`: it has a pending request before every step,
    does not re-request, and nothing is granted on its channel -/
def Waits (c : Ch) : State → List Op → Peer → Prop
  | s, [], p => ∃ req, (p, req) ∈ s.reqs ∧ req.ch = c
  | s, op :: ops, p =>
    (∃ req, (p, req) ∈ s.reqs ∧ req.ch = c) ∧ (∀ rooms ch, op ≠ .request p rooms ch) ∧
      (∀ g ∈ (step s op).2, g.1 ≠ c) ∧ Waits c (step s op).1 ops p

/-- a release of a room that `p` wants, with a live receiver, served somebody else -/
def Bypassed (s : State) (op : Op) (p : Peer) : Prop :=
  ∃ r0 req ch r, op = .unlock r0 ∧ r0 ∈ s.locked ∧ (p, req) ∈ s.reqs ∧ req.ch ∉ s.dead ∧
    (ch, r) ∈ (step s op).2 ∧ req.ch ≠ ch ∧ r ∈ req.rooms

open Classical in
noncomputable def bypassCount : State → List Op → Peer → Nat
  | _, [], _ => 0
  | s, op :: ops, p => (if Bypassed s op p then 1 else 0) + bypassCount (step s op).1 ops p

theorem waits_head {c : Ch} {s : State} {ops : List Op} {p : Peer} (h : Waits c s ops p) :
    ∃ req, (p, req) ∈ s.reqs ∧ req.ch = c := by
  cases ops with
  | nil => exact h
  | cons op ops => exact h.1

theorem bounded_bypass {max : Nat} {c : Ch} {s : State} (hi : Inv max s) (ops : List Op) (p : Peer)
    (hw : Waits c s ops p) :
    bypassCount s ops p + rank (run s ops).1.queue p ≤ rank s.queue p := by
  induction ops generalizing s with
  | nil => exact Nat.le_of_eq (Nat.zero_add _)
  | cons op ops ih =>
    obtain ⟨⟨req, hm, hc⟩, hop, hnot, hrest⟩ := hw
    have hi1 := step_inv hi op
    obtain ⟨req1, hm1, _⟩ := waits_head hrest
    have hq1 : p ∈ (step s op).1.queue := mem_queue_of_mem_reqs hi1 hm1
    have hle := step_rank_le hi op hm hq1 (fun g hg => hc ▸ hnot g hg) hop
    have hih := ih hi1 hrest
    rw [bypassCount]
    show _ + rank (run (step s op).1 ops).1.queue p ≤ _
    split
    · next hb =>
      obtain ⟨r0, req', ch, r, rfl, hr0, hm', hlive, hg, hch, hwant⟩ := hb
      cases mem_uniq hi.keysNodup hm' hm
      rw [Nat.add_assoc, Nat.add_comm 1]
      exact Nat.lt_of_le_of_lt hih (unlock_bypass_rank_lt hi hr0 hm' hq1 hg hch hlive hwant)
    · rw [Nat.zero_add]
      exact Nat.le_trans hih hle

/-- **C20 (eventually granted: bounded bypass).** Along any continuation of any reachable state,
    a peer that keeps waiting is overtaken — a released room it wants, with a live receiver,
    granted to somebody else — at most as many times as there were peers before it in the queue,
    i.e. fewer times than the queue is long. Together with `C20_no_missed_wakeup`,
    `C20_unlock_progress` and `C20_head_of_line_partial` this is what "every requested room is
    eventually granted as long as granted rooms are released" means for the service. -/
theorem C20_bounded_bypass (max : Nat) (pre ops : List Op) (p : Peer) (c : Ch) :
    let s := (run (init max) pre).1
    Waits c s ops p → bypassCount s ops p ≤ rank s.queue p ∧ rank s.queue p < s.queue.length := by
  intro s hw
  have hi : Inv max s := run_inv (inv_init max) pre
  obtain ⟨req, hm, _⟩ := waits_head hw
  exact ⟨Nat.le_trans (Nat.le_add_right _ _) (bounded_bypass hi ops p hw),
    rank_lt_length (mem_queue_of_mem_reqs hi hm)⟩

/-! ### starvation in the code BEFORE `fix: a waiting peer keeps its place in the lock queue`

(`Model/LockOld.lean`.) A waiting peer that was visited while its rooms were locked, in a pass that
ended with a grant to a peer visited after it, was re-queued at the FRONT of the queue: every peer
that arrived later overtook it. The schedule below returns to the same state, so it could be
repeated for ever: every granted room is released, room 1 is released and granted again in every
round, and peer 1 — live receiver, waiting for room 1 since before — never got it. Replayed on the
real actor of that time (`corpus/C20/starvation-requeue-front.ops`). -/

def starvePre : List Op :=
  [.request 3 [1] 3, .request 4 [2] 4,          -- rooms 1 and 2 are held (limit 2)
   .request 1 [1] 1,                             -- peer 1 waits for room 1
   .request 2 [2] 2, .request 3 [1] 3,           -- later arrivals: peer 2 waits for 2, peer 3 for 1
   .unlock 2, .unlock 1]

def starveCycle : List Op :=
  [.request 2 [2] 2, .request 3 [1] 3, .unlock 2, .unlock 1]

def cycles : Nat → List Op
  | 0 => []
  | n + 1 => starveCycle ++ cycles n

theorem runOld_append (s : State) (a b : List Op) :
    LockOld.run s (a ++ b) =
      ((LockOld.run (LockOld.run s a).1 b).1, (LockOld.run s a).2 ++ (LockOld.run (LockOld.run s a).1 b).2) := by
  induction a generalizing s with
  | nil => simp [LockOld.run]
  | cons op a ih => simp only [List.cons_append, LockOld.run, ih, List.cons_append]

theorem C20_breaks_starvation_round :
    let s := (LockOld.run (init 2) starvePre).1
    (1, ({ rooms := [1], ch := 1 } : Req)) ∈ s.reqs ∧ 1 ∉ s.dead ∧
    (LockOld.run s starveCycle).1 = s ∧
    (LockOld.run s starveCycle).2 = [[], [], [(2, 2)], [(3, 1)]] := by decide +kernel

theorem runOld_cycles {s : State} (hs : (LockOld.run s starveCycle).1 = s) (n : Nat) :
    (LockOld.run s (cycles n)).1 = s ∧
      ∀ g ∈ (LockOld.run s (cycles n)).2, g ∈ (LockOld.run s starveCycle).2 := by
  induction n with
  | zero => exact ⟨rfl, fun _ h => nomatch h⟩
  | succ n ih =>
    rw [cycles, runOld_append, hs]
    exact ⟨ih.1, fun g hg => (List.mem_append.mp hg).elim id (ih.2 g)⟩

/-- (code before the fix) for EVERY number of rounds: same state again, and no grant ever goes to
    peer 1's channel -/
theorem C20_breaks_starvation (n : Nat) :
    let s := (LockOld.run (init 2) starvePre).1
    (LockOld.run s (cycles n)).1 = s ∧ ∀ g ∈ (LockOld.run s (cycles n)).2, ∀ x ∈ g, x.1 ≠ 1 := by
  intro s
  obtain ⟨_, _, h3, h4⟩ := C20_breaks_starvation_round
  obtain ⟨h5, h6⟩ := runOld_cycles h3 n
  refine ⟨h5, fun g hg => ?_⟩
  exact (by decide : ∀ g ∈ ([[], [], [(2, 2)], [(3, 1)]] : List (List (Ch × Room))),
    ∀ x ∈ g, x.1 ≠ 1) g (h4 ▸ h6 g hg)

/-- the same schedule on the code as fixed: peer 1 is served as soon as room 1 is released -/
theorem C20_starvation_fixed :
    (run (init 2) starvePre).2 = [[(3, 1)], [(4, 2)], [], [], [], [(2, 2)], [(1, 1)]] := by decide +kernel

/-! ### non-vacuity: concrete reachable states meeting the hypotheses -/

example : (run (init 1) [.request 1 [5, 6] 1, .request 2 [5, 6] 2, .unlock 6]).2
    = [[(1, 6)], [], [(1, 5)]] := by decide +kernel

-- two grants of room 6 (steps 0 and 3) with the unlock of 6 at step 2 in between
example : grantedAt (run (init 1) [.request 1 [5, 6] 1, .request 2 [6] 2, .unlock 6, .unlock 5, .unlock 6]).2 0 6 ∧
    grantedAt (run (init 1) [.request 1 [5, 6] 1, .request 2 [6] 2, .unlock 6, .unlock 5, .unlock 6]).2 3 6 := by
  constructor
  · exact ⟨[(1, 6)], by decide +kernel, 1, by decide +kernel⟩
  · exact ⟨[(2, 6)], by decide +kernel, 2, by decide +kernel⟩

-- a reachable state with spare capacity and a non-empty pending list (all of it locked)
example : let s := (run (init 2) [.request 1 [5] 1, .request 2 [5] 2]).1
    0 < s.avail ∧ s.reqs ≠ [] := by decide +kernel

-- progress premises are satisfiable
example : let s := (run (init 2) [.request 1 [5] 1, .request 2 [5] 2]).1
    5 ∈ s.locked ∧ (2, ({ rooms := [5], ch := 2 } : Req)) ∈ s.reqs ∧ 2 ∉ s.dead := by decide +kernel

end Discret.Lock

namespace Discret.LockConn
open Discret.Lock

/-! ### system level: connections using the service (`Model/LockConn.lean`)

"At most one connection synchronises a room at a time" needs every `Unlock r` to come from the
current holder, once. The connection code before `fix: release each room lock exactly once when a
connection ends` did not guarantee that (DESIGN.md §4, site 26; replayed on the real
`LocalPeerService` by engine `lockconn`, corpus/C20/conn-double-unlock.ops). -/

/-- **C20_breaks_doubleUnlock (code before the fix).** Connection 0 synchronises room 7 and its loop
    ends: `cleanup` unlocks 7 while the task is still running; the room goes to connection 1; the
    task of connection 0 then finishes and unlocks 7 *again*, which releases connection 1's lock;
    connection 2 is granted room 7 while connection 1 is still synchronising it. -/
def doubleUnlockTrace : List SOp :=
  [.conn 0, .conn 1, .conn 2,
   .request 0 [7], .recv 0, .task 0 0,        -- conn 0 synchronises room 7
   .request 1 [7], .request 2 [7],            -- conn 1 and 2 wait for it
   .close 0,                                   -- loop of conn 0 ends
   .recv 1, .task 1 0,                         -- (before the fix) conn 1 synchronises room 7
   .task 0 0,                                  -- conn 0's task ends and unlocks 7
   .recv 2, .task 2 0]

theorem C20_breaks_doubleUnlock :
    syncing (srun Defects.beforeFix (sinit 1) doubleUnlockTrace) 7 = [1, 2] := by decide +kernel

/-- the same schedule on the code as fixed: nobody else gets the room while connection 0's task runs -/
theorem C20_doubleUnlock_fixed :
    syncing (srun Defects.none (sinit 1) doubleUnlockTrace) 7 = [] ∧
    syncing (srun Defects.none (sinit 1) (doubleUnlockTrace ++ [.recv 1, .task 1 0])) 7 = [1] := by decide +kernel

/-- **C20_breaks_grantInFlightAtClose (code before the fix).** A grant sent to a connection whose
    loop ends before receiving it is never released: the room stays locked with no holder. -/
def grantInFlightTrace : List SOp := [.conn 0, .conn 1, .request 0 [7], .close 0, .request 1 [7]]

theorem C20_breaks_grantInFlightAtClose :
    orphaned (srun Defects.beforeFix (sinit 1) grantInFlightTrace) 7 = true := by decide +kernel

theorem C20_grantInFlight_fixed :
    orphaned (srun Defects.none (sinit 1) grantInFlightTrace) 7 = false ∧
    ((srun Defects.none (sinit 1) grantInFlightTrace).conns.map (·.inbox)) = [[], [7]] := by decide +kernel

/-! ### system level, code as fixed: exclusive, bounded, never lost — for every schedule

The composed system: any number of connections, each with its inbox of grants, its tasks in their
three phases, `close` at any moment; every interleaving of `conn / request / recv / task / close`
(no party outside the model talks to the lock service). No bound on anything. -/

/-- **C20 (system-level exclusivity).** In every reachable state no room is being synchronised —
    or about to be — by two connections, nor twice by one connection. -/
theorem C20_system_exclusive (max : Nat) (ops : List SOp) (hops : ops.all noRaw = true) :
    let s := srun Defects.none (sinit max) ops
    (∀ (i j : Nat) (ci cj : Conn) (r : Room) (pi pj : Nat), s.conns[i]? = some ci → s.conns[j]? = some cj →
        (r, pi) ∈ ci.tasks → pi < 2 → (r, pj) ∈ cj.tasks → pj < 2 → i = j) ∧
    (∀ (i : Nat) (c : Conn), s.conns[i]? = some c → ((c.tasks.filter fun t => t.2 < 2).map Prod.fst).Nodup) := by
  intro s
  have hj := srun_J (J_init max) ops hops
  constructor
  · intro i j ci cj r pi pj hci hcj hti hpi htj hpj
    exact hj.disj i j ci cj r hci hcj (mem_active_of_task hti hpi) (mem_active_of_task htj hpj)
  · intro i c hc
    exact (List.nodup_append.mp (hj.conn i c hc).nodup).2.1

/-- **C20 (system-level: bounded and never lost).** In every reachable state at most `max` rooms are
    locked; every room a connection is responsible for is locked; and every locked room has a
    connection responsible for releasing it — a grant in the inbox of an OPEN connection or a task
    that has not yet sent its `Unlock` (a closed connection has an empty inbox). So a connection
    that ends keeps nothing but its running tasks, each of which unlocks when it ends. -/
theorem C20_system_no_lock_lost (max : Nat) (ops : List SOp) (hops : ops.all noRaw = true) :
    let s := srun Defects.none (sinit max) ops
    s.svc.locked.length ≤ max ∧
    (∀ (i : Nat) (c : Conn) (r : Room), s.conns[i]? = some c → r ∈ active c → r ∈ s.svc.locked) ∧
    (∀ r ∈ s.svc.locked, ∃ (i : Nat) (c : Conn), s.conns[i]? = some c ∧ r ∈ active c) ∧
    (∀ (i : Nat) (c : Conn), s.conns[i]? = some c → c.closed = true → c.inbox = []) := by
  intro s
  have hj := srun_J (J_init max) ops hops
  exact ⟨hj.inv.count ▸ Nat.le_add_right _ _, fun i c r hc hr => ((hj.conn i c hc).locked r hr).1,
    fun r hr => (hj.owned r hr).resolve_left (fun h => nomatch h),
    fun i c hc hcl => ((hj.conn i c hc).closed hcl).1⟩

-- non-vacuity: the fixed-code traces above are reachable states covered by the theorems
example : doubleUnlockTrace.all noRaw = true ∧ grantInFlightTrace.all noRaw = true := by decide +kernel

end Discret.LockConn
